import Evl.Generated.Accesses
import Evl.Generated.LockSites
import Evl.Generated.RegistryFacts
/-!
# C19 — stock nodes are safe to share across pipelines and goroutines

Lock-set discipline (`Evl.Lockset.lockset_sound` is the general soundness theorem) over the access
table regenerated from the source for every stock node type and the shared `*Event`: every location
that some method writes is accessed under one common lock, writes exclusively.

**Known finding (genuine defect, recorded, not repaired — see DESIGN.md §7 F7a):**
`encrypt.Filter.Process` deep-copies the event with `copystructure.Copy(e)`, which reads
`Event.Formatted` without `Event.l`, while another pipeline's formatter may be writing the same
event's table through `FormattedAs`.  The table row is derived from the hand-written escape summary
of that external call (`escape := true`).  `Evl.C19Known.discipline_full_fails` is
the proved negative witness; `discipline_partial` is the theorem for everything else.
-/
namespace Evl.C19
open Evl.Lockset Evl.Generated

def ownAccesses : List Access := accesses.filter (fun a => !a.escape)

/-- every written location of every stock node and of Event is disciplined -/
theorem discipline_partial : disciplineOK ownAccesses = true := by decide +kernel

/-- the sinks write under their own mutex, exclusively (bytes of concurrent Process calls never interleave) -/
theorem sink_writes_exclusive : sinkWrites.all (·.2) = true ∧ (sinkWrites.any (·.1 == 0)) = true ∧ (sinkWrites.any (·.1 == 1)) = true := by
  decide

/-- the gated filter composes and sends while holding its own lock exclusively: a group being
composed is unreachable for concurrent callers -/
theorem gated_compose_under_lock : gatedCalls.all (·.2) = true ∧ gatedCalls.length ≥ 3 := by decide

theorem no_nested_acquisition : nestedAcquisitions = 0 := by decide

-- `[0, 1, 2, 4, 5, 6]`: the components of `locGroup` (`Generated/Accesses.lean`: 0 Broker, 1 Event, 2 FileSink,
-- 3 writer.Sink, 4 gated, 5 encrypt, 6 cloudevents) without 3, writer.Sink writing no field of its own; 9 stands
-- for no component (a code outside the table), as in `C04.brokerAccesses`
/-- non-vacuity: the table covers every stock component -/
theorem table_nonvacuous :
    [0, 1, 2, 4, 5, 6].all (fun g => ownAccesses.any (fun a => locGroup.getD a.loc 9 == g && a.write)) = true := by decide +kernel

end Evl.C19
