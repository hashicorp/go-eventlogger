import Evl.Model.CloudEvents
/-!
# C18 — CloudEvents output is spec-conformant and, where required, verifiably signed

Model: M8b `CloudEvents` (validate / Process / sign) over M8's JSON renderer.

**Known finding F8 (genuine defect, recorded, not repaired):** the content-type attribute is emitted
under the misspelt member name `datacontentype` (struct tag in formatter_filter.go) instead of the
CloudEvents attribute `datacontenttype`; the library's own tests pin the misspelt name, so the
repair cannot be made without editing them.  The model follows the code.
Assumed: `base62.Random` freshness of generated ids (checked for collisions within a run only).
-/
namespace Evl.C18
open Evl.CloudEvents Evl.Json

/-- invalid configurations and empty IDs are rejected with an error -/
theorem reject (c : Cfg) (e : Ev) (signer : Bytes → Option Bytes) (p : Evl.CloudEvents.Pred) :
    (c.nilFilter = false → c.source = none → process c e signer p = .error .missingSource) ∧
    (c.nilFilter = false → c.source = some [] → process c e signer p = .error .missingSource) ∧
    (c.nilFilter = false → ∀ s, c.source = some s → s ≠ [] → c.format = .invalid → process c e signer p = .error .badFormat) ∧
    (c.nilFilter = false → ∀ s, c.source = some s → s ≠ [] → c.format ≠ .invalid → c.schema = some [] →
        process c e signer p = .error .emptySchema) ∧
    (validate c = none → e.idIface = some [] → process c e signer p = .error .emptyId) := by
  refine ⟨?_, ?_, ?_, ?_, ?_⟩
  · intro h1 h2; simp [process, validate, h1, h2]
  · intro h1 h2; simp [process, validate, h1, h2]
  · intro h1 s h2 h3 h4
    simp [process, validate, h1, h2, List.isEmpty_eq_false_iff.mpr h3, h4]
  · intro h1 s h2 h3 h4 h5
    simp [process, validate, h1, h2, List.isEmpty_eq_false_iff.mpr h3, beq_eq_false_iff_ne.mpr h4, h5]
  · intro h1 h2; simp [process, h1, h2]

/-- the id used: the payload's ID() or the generated one -/
def idOf (e : Ev) : Bytes := match e.idIface with | some i => i | none => e.freshId

def unsignedDoc (c : Cfg) (e : Ev) : Option Bytes :=
  encode (c.format == .text) (docToks (idOf e) (c.source.getD []) e.ty e.data
    (if c.format == .text then ctText else ctJSON) (c.schema.getD []) e.timeTok none)

/-- `process` with validation and the choice of the id behind it: given the unsigned document `u`, what remains
is the model's own text for signing and the predicate -/
theorem process_valid (c : Cfg) (e : Ev) (signer : Bytes → Option Bytes) (p : Evl.CloudEvents.Pred)
    (hv : validate c = none) (hid : e.idIface ≠ some []) (u : Bytes) (hu : unsignedDoc c e = some u) :
    process c e signer p =
      (let signedR : Option (Option Bytes) :=
        if c.hasSigner && c.signTypes.contains e.ty then
          match signer u with
          | none => none
          | some mac => some (encode (c.format == .text) (docToks (idOf e) (c.source.getD []) e.ty e.data
              (if c.format == .text then ctText else ctJSON) (c.schema.getD []) e.timeTok (some (b64 u, mac))))
        else some (some u)
       match signedR with
       | none => .error .sign
       | some none => .error .encode
       | some (some stored) =>
         match p with
         | .absent => .forward (if c.format == .text then 3 else 2) stored
         | .ret true => .forward (if c.format == .text then 3 else 2) stored
         | .ret false => .dropped (if c.format == .text then 3 else 2) stored
         | .err => .error .predicate) := by
  unfold process
  unfold unsignedDoc idOf at hu
  cases hi : e.idIface with
  | none => simp only [hi] at hu; simp only [hv, hi, hu, idOf]; rfl
  | some i =>
    have hne : i.isEmpty = false := List.isEmpty_eq_false_iff.mpr (fun h => hid (h ▸ hi))
    simp only [hi] at hu
    simp only [hv, hi, hne, Bool.false_eq_true, if_false, hu, idOf]
    rfl

/-- **An event whose signing failed is not forwarded unsigned.** -/
theorem sign_failure (c : Cfg) (e : Ev) (signer : Bytes → Option Bytes) (p : Evl.CloudEvents.Pred)
    (hv : validate c = none) (hid : e.idIface ≠ some []) (u : Bytes) (hu : unsignedDoc c e = some u)
    (hs : c.hasSigner = true) (hl : c.signTypes.contains e.ty = true) (hf : signer u = none) :
    process c e signer p = .error .sign := by
  rw [process_valid c e signer p hv hid u hu]
  simp only [hs, hl, Bool.and_self, if_true, hf]

/-- the last steps of `process`: what is forwarded was signed (if asked for), encoded and stored -/
theorem forwarded {o : Option (Option Bytes)} {p : Evl.CloudEvents.Pred} {n f : Nat} {stored : Bytes}
    (h : (match o with
      | none => Out.error .sign
      | some none => .error .encode
      | some (some s) =>
        match p with
        | .absent => .forward n s
        | .ret true => .forward n s
        | .ret false => .dropped n s
        | .err => .error .predicate) = .forward f stored) : o = some (some stored) := by
  rcases o with _ | _ | s <;> rcases p with _ | ⟨_ | _⟩ | _ <;> cases h <;> rfl

/-- **Signed documents are verifiable.** With a signer and a listed type, what is stored is the
document with `serialized` = base64url of the exact unsigned document and `serialized_hmac` = the
signer's result for those bytes. -/
theorem signed (c : Cfg) (e : Ev) (signer : Bytes → Option Bytes) (p : Evl.CloudEvents.Pred) (f : Nat) (stored : Bytes)
    (hv : validate c = none) (hid : e.idIface ≠ some []) (u : Bytes) (hu : unsignedDoc c e = some u)
    (hs : c.hasSigner = true) (hl : c.signTypes.contains e.ty = true)
    (hfw : process c e signer p = .forward f stored) :
    ∃ mac, signer u = some mac ∧
      some stored = encode (c.format == .text) (docToks (idOf e) (c.source.getD []) e.ty e.data
        (if c.format == .text then ctText else ctJSON) (c.schema.getD []) e.timeTok (some (b64 u, mac))) := by
  rw [process_valid c e signer p hv hid u hu] at hfw
  have h := forwarded hfw
  simp only [hs, hl, Bool.and_self, if_true] at h
  cases hm : signer u with
  | none => rw [hm] at h; cases h
  | some mac => rw [hm] at h; exact ⟨mac, rfl, (Option.some.inj h).symm⟩

/-- **Event types not listed are never signed** (nor is anything when no signer is configured): the
stored document is the unsigned one. -/
theorem unlisted_not_signed (c : Cfg) (e : Ev) (signer : Bytes → Option Bytes) (p : Evl.CloudEvents.Pred) (f : Nat) (stored : Bytes)
    (hv : validate c = none) (hid : e.idIface ≠ some []) (u : Bytes) (hu : unsignedDoc c e = some u)
    (hn : c.hasSigner = false ∨ c.signTypes.contains e.ty = false)
    (hfw : process c e signer p = .forward f stored) : stored = u := by
  rw [process_valid c e signer p hv hid u hu] at hfw
  have h := forwarded hfw
  simp only [Bool.and_eq_false_iff.mpr hn, Bool.false_eq_true, if_false] at h
  exact (Option.some.inj (Option.some.inj h)).symm

end Evl.C18
