import Evl.Lemmas.Gated
import Evl.Generated.LockSites
/-!
# C17 — gated events do not linger: expiry, FlushAll and Close empty the gate

Model: M6 `Gated`.  The gate content in the theorems is arbitrary, hence in particular every reachable one.
-/
namespace Evl.C17
open Evl.Gated

def Succeeded (o : Out) : Prop := o.ret = .gated ∨ ∃ evs, o.ret = .flushed evs

theorem lastErr_not_succeeded (es : List Emit) : ¬ Succeeded ⟨lastErr es, es⟩ :=
  fun h => h.elim (lastErr_ne es).1 fun ⟨evs, h⟩ => (lastErr_ne es).2 evs h

theorem sweep_expired {x : Fate} {now : Int} {gs gs1 : List Group} {es : List Emit}
    (hs : Sweep x (expired now) gs gs1 es true) (id uid n : Nat) :
    (∀ g ∈ addEvent gs1 id uid (now + n), ¬ now > g.exp) ∧
    es.map (fun e => (e.id, e.evs)) = (gs.filter (expired now)).map (fun g => (g.id, g.evs)) ∧
    ∀ e ∈ es, e.fate = x := by
  obtain ⟨rfl, rfl⟩ := hs.of_ok rfl
  refine ⟨fun g hg => ?_, List.map_map .., fun e he => ?_⟩
  · -- the sweep kept unexpired groups only, the new one expires later, one more event changes no expiry
    refine addEvent_forall (P := fun g => ¬ now > g.exp) (fun g0 h0 => ?_) ?_ (fun _ h => h) g hg
    · simpa [expired] using (List.mem_filter.mp h0).2
    · exact Int.not_lt.mpr (Int.le_add_of_nonneg_right (Int.natCast_nonneg n))
  · obtain ⟨g, _, rfl⟩ := List.mem_map.mp he
    rfl

/-- After a successful Process at time `now`, no group whose expiry lies before `now` remains, and
the expired groups were emitted oldest first, each exactly once, through the Broker when one is
configured (otherwise composed and dropped). -/
theorem process_expiry (c : Cfg) (gs : List Group) (uid id : Nat) (flush : Bool) (now : Int) (f : Fail)
    (h : Succeeded (step c gs (.ev uid id flush now f)).2) :
    (∀ g ∈ (step c gs (.ev uid id flush now f)).1, ¬ now > g.exp) ∧
    ∃ es tail, (step c gs (.ev uid id flush now f)).2.emits = es ++ tail ∧
      es.map (fun e => (e.id, e.evs)) = (gs.filter (expired now)).map (fun g => (g.id, g.evs)) ∧
      (∀ e ∈ es, e.fate = (if c.broker then .sent else .noBroker)) ∧
      (tail = [] ∨ ∃ evs, tail = [⟨id, evs, .flushed⟩]) := by
  have hs := step_ev c gs uid id flush now f
  generalize step c gs (.ev uid id flush now f) = r at h hs
  induction hs with
  | noId _ | flushFailed _ _ => rcases h with h | ⟨_, h⟩ <;> cases h
  | sweepFailed hs => exact absurd h (lastErr_not_succeeded _)
  | gated hs =>
    obtain ⟨h1, h2, h3⟩ := sweep_expired hs id uid c.expiration
    exact ⟨h1, _, [], (List.append_nil _).symm, h2, h3, .inl rfl⟩
  | flushed hs ht =>
    obtain ⟨h1, h2, h3⟩ := sweep_expired hs id uid c.expiration
    exact ⟨fun g hg => h1 g ((takeGroup_sublist ht).subset hg), _, _, rfl, h2, h3, .inr ⟨_, rfl⟩⟩

/-- So the events the filter holds after a successful Process are those of unexpired groups only. -/
theorem bound (c : Cfg) (gs : List Group) (uid id : Nat) (flush : Bool) (now : Int) (f : Fail)
    (h : Succeeded (step c gs (.ev uid id flush now f)).2) :
    ∀ g ∈ (step c gs (.ev uid id flush now f)).1, expired now g = false :=
  fun g hg => decide_eq_false ((process_expiry c gs uid id flush now f h).1 g hg)

/-- After FlushAll (or Close) returns successfully nothing remains gated; with a Broker every
previously gated group was composed and sent exactly once, oldest first; without one every group
was dropped. -/
theorem flushAll_empties (c : Cfg) (gs : List Group) (f : Fail) (h : (flushAllStep c gs f).2.ret = .ok) :
    (flushAllStep c gs f).1 = [] ∧
    (flushAllStep c gs f).2.emits.map (fun e => (e.id, e.evs)) = gs.map (fun g => (g.id, g.evs)) ∧
    ∀ e ∈ (flushAllStep c gs f).2.emits, e.fate = (if c.broker then .sent else .droppedUncomposed) := by
  have hs := flushAllStep_sweep c gs f
  rw [h] at hs
  obtain ⟨h1, h2⟩ := hs.selectAll_of_ok
  rw [h1, h2]
  refine ⟨rfl, List.map_map .., fun e he => ?_⟩
  obtain ⟨g, _, rfl⟩ := List.mem_map.mp he
  rfl

/-- **A failing FlushAll / Close still makes progress**: whatever fails (composition, a Gateable
composite, the Broker's Send), a call on a non-empty gate leaves strictly fewer groups than it found
— the group whose gate failed to open is gone, none is added. -/
theorem flushAll_progress (c : Cfg) (gs : List Group) (f : Fail) (h : gs ≠ []) :
    (flushAllStep c gs f).1.length < gs.length :=
  Nat.lt_of_le_of_lt (flushAllStep_sweep c gs f).selectAll_length (Nat.sub_one_lt (mt List.length_eq_zero_iff.mp h))

def flushes (c : Cfg) (gs : List Group) (fs : List Fail) : List Group :=
  fs.foldl (fun gs f => (flushAllStep c gs f).1) gs

theorem flushes_length (c : Cfg) (fs : List Fail) :
    ∀ gs : List Group, (flushes c gs fs).length ≤ gs.length - fs.length := by
  induction fs with
  | nil => exact fun gs => Nat.le_refl _
  | cons f fs ih =>
    intro gs
    refine Nat.le_trans (ih _) (Nat.le_trans (Nat.sub_le_sub_right (flushAllStep_sweep c gs f).selectAll_length _) ?_)
    rw [List.length_cons, Nat.sub_sub, Nat.add_comm]
    exact Nat.le_refl _

/-- **So nothing lingers for ever, even under failures**: as many FlushAll / Close calls as there
are groups in the gate empty it, whatever each of them reports and whichever group each of them
fails on; further calls keep it empty. -/
theorem flushes_empty (c : Cfg) (fs : List Fail) : ∀ gs : List Group, gs.length ≤ fs.length → flushes c gs fs = [] := by
  intro gs h
  have := flushes_length c fs gs
  rw [Nat.sub_eq_zero_of_le h] at this
  exact List.eq_nil_of_length_eq_zero (Nat.le_zero.mp this)

/-- FlushAll / Close on an empty gate: nothing is composed, nothing sent, no error (so calling Close
again, or after FlushAll, is harmless) -/
theorem flushAll_empty_noop (c : Cfg) (f : Fail) : flushAllStep c [] f = ([], ⟨.ok, []⟩) := rfl

theorem close_is_flushAll (c : Cfg) (gs : List Group) (f : Fail) : step c gs (.close f) = step c gs (.flushAll f) := rfl

/-- Non-vacuity: three open groups, two of them expired at the next event; FlushAll afterwards. -/
def demoGs : List Group := [⟨1, [10, 11], 5⟩, ⟨2, [12], 7⟩, ⟨3, [13], 40⟩]
example : (step ⟨true, 10⟩ demoGs (.ev 14 3 false 20 {})).2 =
    ⟨.gated, [⟨1, [10, 11], .sent⟩, ⟨2, [12], .sent⟩]⟩ := by decide
example : Succeeded (step ⟨true, 10⟩ demoGs (.ev 14 3 false 20 {})).2 := Or.inl (by decide)
example : (step ⟨true, 10⟩ demoGs (.flushAll {})).2.ret = .ok ∧ (step ⟨true, 10⟩ demoGs (.flushAll {})).1 = [] := by decide
example : (step ⟨true, 10⟩ demoGs (.flushAll { sf := 2 })).2.ret = .errSend ∧
    (step ⟨true, 10⟩ demoGs (.flushAll { sf := 2 })).1 = [⟨3, [13], 40⟩] := by decide

-- three groups, each call failing on a different one: three calls empty the gate, two do not
example : flushes ⟨true, 10⟩ demoGs [{ sf := 1 }, { cf := 2 }, { cg := 3 }] = [] ∧
    flushes ⟨true, 10⟩ demoGs [{ sf := 1 }, { cf := 2 }] = [⟨3, [13], 40⟩] := by decide

/-- **The model's steps are the code's critical sections** (regenerated from filters/gated/gated.go on
every run): `Close` and `FlushAll` each take the filter's lock once and keep it until they return
— emptying the gate is one atomic step, nobody sees or touches a group between its composition, its
emission through the Broker and its removal; `Process` consists of exactly three sections
(initialisation, the expiry sweep, the event's own group), each of them one step of M6. -/
theorem sections_on_source : Evl.Generated.gatedSections = [1, 1, 3] := by decide

end Evl.C17
