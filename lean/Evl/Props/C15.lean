import Evl.Model.FileSink
import Evl.Lemmas.FileSinkOrd
import Evl.Generated.Decisions
/-!
# C15 — FileSink rotation triggers, naming and retention follow the configuration

Model: M5 `FileSink`.  The rotation condition is tied to the source by the decision tree regenerated
from `FileSink.rotate` (`Evl.Generated.rotateCond`); names, modes and the directory listing are
compared with the real file system after every step by the correspondence harness (same runs as C08).
-/
namespace Evl.C15
open Evl.FileSink

/-- A write first rotates exactly when the active file, since it was opened, already holds at least
MaxBytes (MaxBytes > 0) or is older than MaxDuration (MaxDuration > 0). -/
theorem trigger_iff (c : Cfg) (bw el : Nat) :
    needRotate c bw el = true ↔ (c.maxBytes > 0 ∧ bw ≥ c.maxBytes) ∨ (c.maxDuration > 0 ∧ (el : Int) > c.maxDuration) := by
  unfold needRotate
  simp only [Bool.or_eq_true, Bool.and_eq_true, decide_eq_true_eq]
  exact or_congr and_comm and_comm

/-- ... and that is the condition the source evaluates (regenerated from file_sink.go). -/
theorem trigger_on_source :
    Evl.Generated.rotateCond =
      [[{ l := .bytesWritten, op := .ge, r := .maxBytes }, { l := .maxBytes, op := .gt, r := .zero }],
       [{ l := .elapsed, op := .gt, r := .maxDuration }, { l := .maxDuration, op := .gt, r := .zero }]] := by decide

/-- A non-positive MaxDuration (zero, or a negative "disabled" value) never rotates by age: only the
size limit can. -/
theorem no_age_rotation_without_positive_duration (c : Cfg) (bw el : Nat) (h : c.maxDuration ≤ 0) :
    needRotate c bw el = true ↔ (c.maxBytes > 0 ∧ bw ≥ c.maxBytes) := by
  rw [trigger_iff]
  exact or_iff_left fun h1 => Int.not_lt.mpr h h1.1

/-- With neither limit nothing ever rotates: the state after `rotate` is the state before. -/
theorem never_without_limits (c : Cfg) (s : St) (el : Nat) (h1 : c.maxBytes = 0) (h2 : c.maxDuration = 0) :
    rotate c s el = (s, .ok) :=
  rotate_of_not_needed (by simp [needRotate, h1, h2])

/-- pruneFiles never removes a name outside the sink's own timestamped name space (the plain file,
foreign files). -/
theorem prune_keeps_foreign (c : Cfg) (s : St) (x : Name × Nat) (hx : x ∈ s.dir)
    (hn : ∀ n, x.1 ≠ .ts n) : x ∈ (prune c s).dir := by
  obtain ⟨gone, e⟩ := prune_eq c s
  rw [e]
  have hts : isTs x.1 = false := by
    cases hname : x.1 with
    | ts n => exact absurd hname (hn n)
    | _ => rfl
  exact List.mem_filter.mpr ⟨hx, by rw [hts, Bool.and_false]; rfl⟩

/-- **Retention bound**: in every state the ordering invariant describes (every reachable state,
`ord_run`), `pruneFiles` with MaxFiles > 0 leaves at most MaxFiles of the sink's own timestamped
files, and they are the newest ones (what is left is the tail of the oldest-first listing). -/
theorem prune_bound {c : Cfg} {s : St} (ho : Ord c s) (hm : c.maxFiles > 0) :
    (prune c s).dir.filterMap tsOf = (s.dir.filterMap tsOf).drop ((s.dir.filterMap tsOf).length - c.maxFiles) ∧
    ((prune c s).dir.filterMap tsOf).length ≤ c.maxFiles := by
  have hnd : ((s.dir.filterMap tsOf).map (·.2)).Nodup :=
    ho.nodup.sublist (filterMap_tsOf_snd s.dir ▸ List.filter_sublist.map _)
  have heq : (prune c s).dir.filterMap tsOf =
      (s.dir.filterMap tsOf).drop ((s.dir.filterMap tsOf).length - c.maxFiles) := by
    rw [prune_of_ord ho (Nat.ne_of_gt hm)]
    rw [filterMap_tsOf_filter (fun j => !(stale c s).contains j), stale, List.map_take]
    exact Keyed.filter_take_drop (fun x : Nat × Nat => x.2) _ hnd _
  refine ⟨heq, ?_⟩
  rw [heq, List.length_drop, Nat.sub_sub_eq_min]
  exact Nat.min_le_right ..

/-- ... for every history of writes, Reopen calls and external renames: whatever state the sink has
reached, the next `pruneFiles` brings its timestamped files down to MaxFiles. -/
theorem retention_bound (c : Cfg) (ops : List Op) (hm : c.maxFiles > 0) :
    ((prune c (run c {} ops)).dir.filterMap tsOf).length ≤ c.maxFiles :=
  (prune_bound (ord_run c ops {} (ord_init c)) hm).2

/-- opening resets the per-file counter, and the file name follows the configuration: the plain
name with TimestampOnlyOnRotate or without rotation limits, a fresh timestamp otherwise -/
theorem open_name (c : Cfg) (s : St) (h : s.fd = none) :
    (openFile c s).bytesWritten = 0 ∧
    (openFile c s).fdName = some (openName c s) ∧
    openName c s = (if c.tsOnly || !rotateEnabled c then Name.plain else Name.ts s.stamp) ∧
    (openFile c s).stamp = s.stamp + 1 := by
  rcases openFile_cases c s with ⟨_, hi, _⟩ | ⟨_, _, e⟩ | ⟨_, e⟩
  · exact nomatch h.symm.trans hi
  all_goals rw [e]; exact ⟨rfl, rfl, rfl, rfl⟩

/-- after a successful `rotate()` the active file's counter is below MaxBytes (MaxBytes > 0): either
the condition did not hold, or a file was (re)opened and the counter restarted at zero -/
theorem rotate_below (c : Cfg) (s s2 : St) (el : Nat) (hm : c.maxBytes > 0) (h : rotate c s el = (s2, .ok)) :
    s2.bytesWritten < c.maxBytes := by
  have hopen : ∀ t : St, t.fd = none → (openFile c (prune c t)).bytesWritten < c.maxBytes := fun t ht => by
    obtain ⟨_, e⟩ := prune_eq c t
    rw [(open_name c _ (e ▸ ht : (prune c t).fd = none)).1]; exact hm
  rcases rotate_cases c s el with ⟨hn, e⟩ | e | ⟨_, e⟩ | ⟨i, _, e⟩ <;> rw [e] at h
  · obtain rfl := (Prod.mk.inj h).1
    exact Nat.lt_of_not_le fun hle => Bool.false_ne_true (hn.symm.trans ((trigger_iff c _ el).mpr (Or.inl ⟨hm, hle⟩)))
  · exact nomatch (Prod.mk.inj h).2
  all_goals exact (Prod.mk.inj h).1 ▸ hopen _ rfl

/-- **Size trigger, seen from the file**: with MaxBytes > 0 an acknowledged write never lands in a
file that, since the sink opened it, already held MaxBytes or more — the counter after the write is
below MaxBytes plus the size of that one event (the limit can be overshot by one event, never by two). -/
theorem write_below_limit (c : Cfg) (s s' : St) (ev size el : Nat) (hm : c.maxBytes > 0)
    (h : step c s (.write ev size el) = (s', .ok)) : s'.bytesWritten < c.maxBytes + size := by
  rcases step_write_cases c s ev size el with ⟨s2, i, hr, _, e⟩ | e <;> rw [e] at h
  · obtain rfl := (Prod.mk.inj h).1
    exact Nat.add_lt_add_right (rotate_below c _ s2 _ hm hr) size
  · exact nomatch (Prod.mk.inj h).2

/-- **Never otherwise**: a write into an open file whose rotation condition does not hold touches no
name — no rotation, no new file, nothing pruned: the directory and the open descriptor stay as they
were, the event is appended to the active file and acknowledged. -/
theorem no_rotation_without_trigger (c : Cfg) (s : St) (i ev size el : Nat) (hfd : s.fd = some i)
    (hn : needRotate c s.bytesWritten el = false) :
    (step c s (.write ev size el)).2 = .ok ∧ (step c s (.write ev size el)).1.dir = s.dir ∧
    (step c s (.write ev size el)).1.fd = some i ∧ (step c s (.write ev size el)).1.acked = s.acked ++ [ev] := by
  have hr : rotate c (openFile c s) (if s.fd.isNone then 0 else el) = (s, .ok) := by
    rw [openFile, hfd]; exact rotate_of_not_needed hn
  rw [step_write_ok hr hfd]
  exact ⟨rfl, rfl, hfd, rfl⟩

/-- a file is created with the configured mode (0600 when unset) -/
theorem created_mode (c : Cfg) (s : St) (h : s.fd = none)
    (hnew : lookup s.dir (openName c s) = none) :
    ∃ i, (openFile c s).fd = some i ∧ { id := i, evs := [], bytes := 0, mode := fileMode c } ∈ (openFile c s).inodes := by
  unfold openFile
  simp only [h, hnew]
  exact ⟨s.stamp, rfl, List.mem_append_right _ (List.mem_singleton_self _)⟩

/-- Non-vacuity: byte rotation with retention 1 in both naming modes (the last write of the longer
history rotates a second time, and the oldest rotated file is pruned). -/
def demoOps : List Op := [.write 1 60 0, .write 2 60 0, .write 3 60 0, .write 4 60 0, .reopen, .write 5 10 0]
example : ((run ⟨100, 1, 0, true, 0⟩ {} demoOps).dir, contents (run ⟨100, 1, 0, true, 0⟩ {} demoOps)) =
    ([(Name.ts 2, 1), (Name.plain, 3)], [1, 2, 3, 4, 5]) := by decide +kernel
example : contents (run ⟨100, 1, 0, true, 0⟩ {} (demoOps ++ [.write 6 60 0, .write 7 60 0, .write 8 60 0])) = [3, 4, 5, 6, 7, 8] := by decide +kernel
example : (run ⟨100, 1, 0, false, 0⟩ {} demoOps).dir = [(Name.ts 1, 1), (Name.ts 2, 2), (Name.ts 3, 3)] := by decide +kernel
-- the size bound is attained: 60 + 60 bytes in a file limited to 100, then a rotation
example : (step ⟨100, 1, 0, true, 0⟩ (run ⟨100, 1, 0, true, 0⟩ {} [.write 1 60 0]) (.write 2 60 0)).2 = .ok ∧
    (run ⟨100, 1, 0, true, 0⟩ {} [.write 1 60 0, .write 2 60 0]).bytesWritten = 120 ∧
    (run ⟨100, 1, 0, true, 0⟩ {} [.write 1 60 0, .write 2 60 0, .write 3 60 0]).bytesWritten = 60 := by decide +kernel
-- the retention bound is not vacuous: three files listed, pruneFiles keeps the newest one
example : (prune ⟨100, 1, 0, false, 0⟩ (run ⟨100, 1, 0, false, 0⟩ {} demoOps)).dir = [(Name.ts 3, 3)] := by decide +kernel

end Evl.C15
