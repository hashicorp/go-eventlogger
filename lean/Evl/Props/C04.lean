import Evl.Lemmas.Lockset
import Evl.Lemmas.RegistryInv
import Evl.Generated.Accesses
import Evl.Generated.RegistryFacts
import Evl.Generated.LockSites
/-!
# C04 — the Broker is race-free under concurrent use; registration is linearizable for Send

Models: M4 `Lockset`, M1 `Registry`.  `lockset_sound'` orders, in every schedule, two conflicting accesses that
hold a common guard; `discipline` establishes that premise for the table of registry accesses regenerated from
the source by `gofacts` (every read / write of a field of Broker, graph and nodeUsage reachable from an exported
method, with the locks held there).  The pipeline map is a `sync.Map` and therefore not in
the lock-set table: `roots_mutations_in_section`, `swap_is_one_store` and the `window_*` theorems cover it.

Assumed (trusted base): `sync.Map`'s per-key atomicity and Go's happens-before for mutexes.
-/
namespace Evl.C04
open Evl.Lockset Evl.Generated

/-- `locGroup` (regenerated) gives each location code its component, 0 being the Broker's registry; 9 is no
component, for a code outside the table -/
def brokerAccesses : List Access := accesses.filter (fun a => locGroup.getD a.loc 9 == 0)

/-- every access to Broker.nodes / Broker.graphs / graph thresholds / nodeUsage.referenceCount holds
Broker.lock, in write mode for writes -/
theorem discipline : brokerAccesses.all (fun a => guards a brokerLockCode) = true := by decide +kernel

theorem discipline_ok : disciplineOK brokerAccesses = true :=
  disciplineOK_of_guards (fun _ => brokerLockCode) discipline

theorem discipline_nonvacuous :
    (brokerAccesses.filter (·.write)).length ≥ 5 ∧ (brokerAccesses.filter (fun a => !a.write)).length ≥ 10 ∧
    (locsOf brokerAccesses).length ≥ 5 := by decide +kernel

/-- every exported Broker method takes Broker.lock exactly once, and never while already held -/
theorem one_section : brokerSections.all (· == 1) = true ∧ brokerSections.length ≥ 12 ∧ nestedAcquisitions = 0 := by decide

/-- an overwrite replaces the pipeline by one Store, on a pipeline map that is exactly a `sync.Map`
(one field; `Range` / `Store` / `Delete` are one call on it each: nothing cached in between) -/
theorem swap_is_one_store : regPipeStores = 1 ∧ regPipeDeletes = 0 ∧ graphMapPlain = true := by decide

/-- every mutation of a graph's pipeline map (`roots.Store` / `roots.Delete`) lies inside the calling
method's exclusive `Broker.lock` section — the sync.Map makes the single operation atomic for
concurrent Sends, the lock makes it part of the method's one critical section, so a removal cannot
land after another call's registration has been acknowledged -/
theorem roots_mutations_in_section :
    rootsMutations.all (·.2) = true ∧ rootsMutations.length ≥ 3 := by decide

/-- `Lockset.lockset_sound` for a trace that starts with the lock free -/
theorem lockset_sound' (τ1 τ2 τ3 : List Ev) (t1 t2 : Nat) (w1 w2 : Bool) (hfin : Holders)
    (hrun : run [] (τ1 ++ .acc t1 w1 :: (τ2 ++ .acc t2 w2 :: τ3)) = some hfin)
    (hne : t1 ≠ t2) (hconf : w1 = true ∨ w2 = true) :
    ∃ a b, τ2 = a ++ .rel t1 :: b ∧ ∃ m, .acq t2 m ∈ b :=
  lockset_sound excl_nil hrun hne hconf

/-- Critical sections executed one after the other in lock order: the registry state after any
concurrent execution is the state of the sequential execution of the same operations in that order,
and it satisfies the registry invariant (so in-use counts, keys … are consistent at quiescence). -/
theorem sequential (ops : List Registry.Op) : Registry.Inv (Registry.run Registry.init ops) :=
  Registry.inv_run ops Registry.inv_init

/-! ### the registration / removal windows of a Send

A Send looks its graph up under the read lock and then ranges over the graph's pipeline map without
the Broker's lock.  The map is a `sync.Map` (`swap_is_one_store`: `graphMapPlain`), whose `Range`
contract is the trusted base here: no key is visited more than once; a key that is visited was
present at some moment of the call; a key present (under one value) during the whole call is visited. -/

/-- `ms`: the keys of the map at the start of the call and after every concurrent Store / Delete -/
structure RangeContract (ms : List (List Nat)) (visited : List Nat) : Prop where
  once : visited.Nodup
  wasThere : ∀ k ∈ visited, ∃ m ∈ ms, k ∈ m
  stable : ∀ k, (∀ m ∈ ms, k ∈ m) → k ∈ visited

/-- A Send that starts after the pipeline's registration returned and ends before its removal is
requested — the key is in the map during the whole Range — delivers to it exactly once. -/
theorem window_registered (ms : List (List Nat)) (vs : List Nat) (h : RangeContract ms vs) (k : Nat)
    (hk : ∀ m ∈ ms, k ∈ m) : vs.count k = 1 :=
  h.once.count.trans (if_pos (h.stable k hk))

/-- A Send that starts after the removal returned (and nobody registers the key again meanwhile)
never delivers to it. -/
theorem window_removed (ms : List (List Nat)) (vs : List Nat) (h : RangeContract ms vs) (k : Nat)
    (hk : ∀ m ∈ ms, k ∉ m) : vs.count k = 0 := by
  rw [List.count_eq_zero]
  intro hin
  obtain ⟨m, hm, hkm⟩ := h.wasThere k hin
  exact hk m hm hkm

/-- A Send overlapping either call delivers zero or one time. -/
theorem window_overlap (ms : List (List Nat)) (vs : List Nat) (h : RangeContract ms vs) (k : Nat) : vs.count k ≤ 1 :=
  List.nodup_iff_count.mp h.once k

/-- the contract is satisfiable (and the three cases occur) -/
example : RangeContract [[1, 2], [1, 2, 3], [1, 3]] [1, 3] :=
  ⟨by decide, by decide, fun k hk => hk [1, 3] (by decide)⟩

end Evl.C04
