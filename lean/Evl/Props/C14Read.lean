import Evl.Props.C14
/-!
# C14, continued — the stored line reads back

The round trip for strings (`read_escBytes` / `read_quote` of `Lemmas/JsonString`; `read_esc` is the former with
an idle length bound), applied to the stored line: its `event_type` member decodes back to the event's type.
-/
namespace Evl.Json

/-- **Round trip for strings.**  Reading back what the encoder wrote for a Go string gives the string, with every
byte that is not part of a valid UTF-8 sequence replaced by U+FFFD (`sanitize`), and stops exactly
at the closing quote. -/
theorem read_esc : ∀ (n : Nat) (s : Bytes) (rest : Bytes), s.length ≤ n →
    readStr .normal (escBytes s ++ 34 :: rest) = some (sanitize s, rest) :=
  fun _ s rest _ => read_escBytes s rest

end Evl.Json

namespace Evl.C14
open Evl.Json

/-- **The type decodes back.**  In the line the formatters store, the value of the `event_type`
member — the bytes between `"event_type":` and `,"payload":` — reads back, with a JSON string reader,
as the event's type (invalid UTF-8 replaced by U+FFFD), for every type (any bytes), payload and
creation-time token. -/
theorem type_decodes_back (created ty : Bytes) (payload : List Tok) (b : Bytes)
    (h : formatEvent created ty payload = some b) :
    ∃ rest, b = (kCreated ++ created ++ kType) ++ quote ty ++ rest ∧
      readStr .normal ((quote ty).tail ++ rest) = some (sanitize ty, rest) := by
  obtain ⟨p, _, rfl⟩ := formatEvent_some h
  exact ⟨kPayload ++ p ++ [125, 10], by rw [List.append_assoc _ kPayload, List.append_assoc], read_quote ty _⟩

/-- ... unchanged when the type is ASCII -/
theorem ascii_type_decodes_back (created ty : Bytes) (payload : List Tok) (b : Bytes)
    (hty : ∀ x ∈ ty, x < 0x80) (h : formatEvent created ty payload = some b) :
    ∃ rest, b = (kCreated ++ created ++ kType) ++ quote ty ++ rest ∧
      readStr .normal ((quote ty).tail ++ rest) = some (ty, rest) := by
  obtain ⟨rest, h1, h2⟩ := type_decodes_back created ty payload b h
  exact ⟨rest, h1, by rw [h2, sanitize_ascii hty]⟩

/-- the reader does reject malformed strings (non-vacuity of "reads back") -/
example : readStr .normal [97, 10, 34] = none := by decide          -- raw newline
example : readStr .normal [92, 120, 34] = none := by decide         -- \x
example : readStr .normal [97, 98] = none := by decide              -- unterminated
example : sanitize [34, 60, 0xE2, 0x80, 0xA8, 255, 7] = [34, 60, 0xE2, 0x80, 0xA8, 0xEF, 0xBF, 0xBD, 7] := by
  decide +kernel

end Evl.C14
