import Evl.Lemmas.Registry
/-!
# C20 — Reopen reaches every node of every registered pipeline

Model: M1 `Registry` (`Broker.Reopen` → `graph.reopen` → `doReopen`).  `stepReopen` walks every
registered pipeline; a pipeline's walk stops at its first failing node.

Not modelled: `Broker.Reopen` returns at the first *graph* that reports an error, in Go's random map
order, so with a failing node the set of other nodes reached is schedule-dependent.  `stepReopen` walks
on through every pipeline, so after a failure its call list is an upper bound of the code's, and the
correspondence compares the verdict alone there (`Driver/Registry.lean`: "reopened failed").  The
property only requires the error to be carried, which is what `reopen_error` states.
-/
namespace Evl.C20
open Evl.Registry

/-- When no node fails, Reopen is invoked on every node of every registered pipeline (once per
occurrence) and the call reports success. -/
theorem reopen_all (b : Broker) (f : Nat) (h : f = 0 ∨ ∀ p ∈ b.pipes, ∀ n ∈ p.nodes, n.inst ≠ f) :
    (step b (.reopen f)).2 = .reopened (b.pipes.flatMap (fun p => p.nodes.map (·.inst))) false := by
  unfold step stepReopen
  simp only [List.map_congr_left fun p hp => reopenChain_ok f p.nodes (h.imp_right fun h => h p hp),
    List.flatMap_map, List.any_map]
  congr 1
  exact List.any_eq_false.mpr fun _ _ => Bool.false_ne_true

/-- every node of every registered pipeline is reached at least once -/
theorem reopen_reaches_every_node (b : Broker) (p : Pipe) (hp : p ∈ b.pipes) (n : Bound) (hn : n ∈ p.nodes) :
    ∃ calls, (step b (.reopen 0)).2 = .reopened calls false ∧ n.inst ∈ calls := by
  refine ⟨_, reopen_all b 0 (Or.inl rfl), ?_⟩
  rw [List.mem_flatMap]
  exact ⟨p, hp, List.mem_map.mpr ⟨n, hn, rfl⟩⟩

/-- If a node of a registered pipeline fails its Reopen, Broker.Reopen reports failure, and the
failing node's Reopen is among the calls made (its error is the one carried). -/
theorem reopen_error (b : Broker) (f : Nat) (hf : f ≠ 0) (p : Pipe) (hp : p ∈ b.pipes) (n : Bound)
    (hn : n ∈ p.nodes) (hnf : n.inst = f) :
    ∃ calls, (step b (.reopen f)).2 = .reopened calls true ∧ f ∈ calls := by
  obtain ⟨h1, h2⟩ := reopenChain_fail f p.nodes hf ⟨n, hn, hnf⟩
  have hm : reopenChain f p.nodes ∈ b.pipes.map (fun p => reopenChain f p.nodes) := List.mem_map.mpr ⟨p, hp, rfl⟩
  exact ⟨_, congrArg (Res.reopened _) (List.any_eq_true.mpr ⟨_, hm, h1⟩), List.mem_flatMap.mpr ⟨_, hm, h2⟩⟩

/-- Non-vacuity: two event types, a shared node, a removed pipeline. -/
def demoB : Broker := run init
  [ .regNode 1 1 .pass false .dflt, .regNode 2 2 .pass false .dflt, .regNode 3 3 .drop false .dflt,
    .regPipe 1 1 [1, 2, 3] .dflt, .regPipe 2 1 [2, 3] .dflt, .regPipe 1 2 [2, 3] .dflt, .removePipe 1 2 ]
example : (step demoB (.reopen 0)).2 = .reopened [1, 2, 3, 2, 3] false := by decide +kernel
example : (step demoB (.reopen 2)).2 = .reopened [1, 2, 2] true := by decide +kernel

end Evl.C20
