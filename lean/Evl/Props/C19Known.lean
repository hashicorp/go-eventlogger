import Evl.Props.C19
/-! Negative witness of the known finding F7a (kept in its own module: if the defect is repaired this
module stops checking, which `./check` logs for the finding and does not report as a violation). -/
namespace Evl.C19Known
open Evl.Lockset Evl.Generated

/-- with the escape-summary row the Event's format table is not disciplined, and it
is the only such location -/
theorem discipline_full_fails :
    disciplineOK accesses = false ∧ (violations accesses).map (fun l => locGroup.getD l 9) = [1] := by decide +kernel


end Evl.C19Known
