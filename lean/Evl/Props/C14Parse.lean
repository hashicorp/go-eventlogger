import Evl.Props.C14Read
import Evl.Lemmas.JsonParse
/-!
# C14, continued — the whole stored line parses back to the event

The stored line is the text of the three-member object `eventJ` (`line_is_eventJ`), so by `parse_render`
(`Lemmas/JsonParse`) it parses back to the images of the creation time, the type and the payload.
-/
namespace Evl.C14
open Evl.Json

def nCreated : Bytes := [99, 114, 101, 97, 116, 101, 100, 95, 97, 116]      -- created_at
def nType : Bytes := [101, 118, 101, 110, 116, 95, 116, 121, 112, 101]       -- event_type
def nPayload : Bytes := [112, 97, 121, 108, 111, 97, 100]                    -- payload

def eventJ (cj : J) (ty : Bytes) (v : J) : J :=
  .obj (.cons nCreated cj (.cons nType (.str ty) (.cons nPayload v .nil)))

theorem line_is_eventJ (cj : J) (ty : Bytes) (v : J) :
    kCreated ++ renderJ cj ++ kType ++ quote ty ++ kPayload ++ renderJ v ++ [125] = renderJ (eventJ cj ty v) := by
  -- the text of the object, member by member; its constant pieces are the quoted names, which need no escaping
  rw [← List.append_nil (renderJ (eventJ cj ty v)), eventJ, renderJ_obj, renderM_false_cons, renderM_true_cons, renderM_false_cons,
    renderM_true_cons, renderM_false_cons, esc_plain nCreated (by decide +kernel), esc_plain nType (by decide +kernel),
    esc_plain nPayload (by decide +kernel)]
  simp only [List.append_assoc]
  rfl

/-- **The stored line parses back to the event.**  For every creation-time value `cj` (rendered by
`encoding/json` as `renderJ cj`; the formatting of `time.Time` itself is trusted), every type (any
bytes) and every payload value `v` (any nesting, any size; `toks v` is the token stream the model M8
receives), the formatters store `doc ++ "\n"` where `doc` is a JSON document that a strict parser
reads, consuming all of it, as the object with **exactly** the members `created_at`, `event_type`,
`payload`, in that order, whose values are the images of the creation time, the type and the payload
(strings with invalid UTF-8 replaced by U+FFFD, everything else identical: numbers literally,
container lengths, member names and order). -/
theorem line_parses_back (cj v : J) (ty : Bytes) (hc : wf cj = true) (hv : wf v = true) :
    ∃ doc, formatEvent (renderJ cj) ty (toks v) = some (doc ++ [10]) ∧
      parseDoc doc = some (.obj (.cons nCreated (image cj) (.cons nType (.str (sanitize ty))
        (.cons nPayload (image v) .nil)))) := by
  refine ⟨renderJ (eventJ cj ty v), ?_, ?_⟩
  · unfold formatEvent
    rw [render_toks v, ← line_is_eventJ]
    exact congrArg some (List.append_assoc _ [125] [10]).symm
  · have hw : wf (eventJ cj ty v) = true := by simp only [eventJ, wf, wfM, hc, hv, Bool.and_self]
    rw [parse_render _ hw]
    have s1 : sanitize nCreated = nCreated := sanitize_ascii (by decide)
    have s2 : sanitize nType = nType := sanitize_ascii (by decide)
    have s3 : sanitize nPayload = nPayload := sanitize_ascii (by decide)
    simp only [eventJ, image, imageM, s1, s2, s3]

/-- Two events with the same stored line have the same images: what `line_parses_back` reads from the line is a
function of the line. -/
theorem line_injective (cj cj' v v' : J) (ty ty' : Bytes) (hc : wf cj = true) (hc' : wf cj' = true) (hv : wf v = true)
    (hv' : wf v' = true) (h : formatEvent (renderJ cj) ty (toks v) = formatEvent (renderJ cj') ty' (toks v')) :
    image cj = image cj' ∧ sanitize ty = sanitize ty' ∧ image v = image v' := by
  obtain ⟨doc, hd, hp⟩ := line_parses_back cj v ty hc hv
  obtain ⟨doc', hd', hp'⟩ := line_parses_back cj' v' ty' hc' hv'
  cases List.append_cancel_right (Option.some.inj (hd.symm.trans (h.trans hd')))
  injection Option.some.inj (hp.symm.trans hp') with e
  injection e with _ e1 e
  injection e with _ e2 e
  injection e with _ e3 _
  exact ⟨e1, J.str.inj e2, e3⟩

/-- the line determines the payload's JSON image (nothing of it is lost or merged by the encoding) -/
theorem line_determines_payload (cj v v' : J) (ty : Bytes) (hc : wf cj = true) (hv : wf v = true) (hv' : wf v' = true)
    (h : formatEvent (renderJ cj) ty (toks v) = formatEvent (renderJ cj) ty (toks v')) : image v = image v' :=
  (line_injective cj cj v v' ty ty hc hc hv hv' h).2.2

/-- the parser is strict (non-vacuity of "parses") -/
example : parseDoc [91, 49, 44, 93] = none := by decide                       -- [1,]
example : parseDoc [48, 49] = none := by decide                               -- 01
example : parseDoc [123, 34, 97, 34, 58, 49, 44, 125] = none := by decide     -- {"a":1,}
example : parseDoc [91, 32, 93] = none := by decide                           -- [ ]
example : parseDoc [91, 49] = none := by decide                               -- [1
example : parseDoc [49, 93] = none := by decide                               -- 1]
example : parseDoc [110, 117, 108] = none := by decide                        -- nul
example : parseDoc [45] = none := by decide                                   -- -
example : parseDoc [49, 46] = none := by decide                               -- 1.
example : parseDoc [91, 49, 44, 123, 34, 97, 34, 58, 91, 93, 125, 93]
    = some (.arr (.cons (.num [49]) (.cons (.obj (.cons [97] (.arr .nil) .nil)) .nil))) := by rfl   -- [1,{"a":[]}]

/-- the hypotheses are satisfiable by a non-trivial event -/
example : wf (.obj (.cons [107] (.arr (.cons (.num [45, 49, 46, 53, 101, 43, 51]) (.cons (.str [255, 34]) .nil))) .nil)) = true := by
  decide

end Evl.C14

