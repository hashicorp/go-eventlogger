import Evl.Lemmas.DispatchGhost
import Evl.Lemmas.RegistryInv
import Evl.Props.C03   -- check C01 audits `Evl.C03.on_source` through this module (checkprops.py)
/-!
# C01 — every registered pipeline of the event's type sees the event, in node order

Models: M2 `Dispatch` (all schedules of one Send, cancel at any step) for order / at-most-once /
completeness, and M1 `Registry` for *which* pipelines a Send traverses after any registration
history.  The model's `inv` is the ghost log of node invocations (appended where the source calls
`node.Process`: at `rangeStart` for a root, at `spawn` for a child).

Not carried by the Lean model: the identity of the `*Event` handed from node k to node k+1.  That
clause is checked on the implementation by the harness oracle (pointer identity of what node k
returned and node k+1 received, and the shape of the first event), and in M1's
sequential `walk` by the event marker.
-/
namespace Evl.C01
open Evl.Dispatch

variable {c : Cfg}

def log (s : S) (p : Nat) : List (Nat × Nat) := s.inv.filter (fun e => e.1 == p)

/-- a pipeline that was never started has an empty log: with a cancelled context only a subset of
the pipelines is traversed, and `order` applies to every started one -/
theorem unstarted_empty (hlen : ∀ p, p < c.n → 0 < c.len p) {s : S} (hr : Reach c s) (p : Nat)
    (h : (s.ps p).ph = .idle) : log s p = [] := by
  unfold log; rw [(ginv_reach hlen hr).invP p, if_pos h]

/-- **Order and at-most-once, for every schedule and every cancel point.** In every reachable state
the invocations of pipeline `p` are nodes `0, 1, …, m-1` in this order, each exactly once, and node
`j+1` has been invoked only if node `j` returned an event and no error (and is not the leaf). -/
theorem order (hlen : ∀ p, p < c.n → 0 < c.len p) {s : S} (hr : Reach c s) (p : Nat) :
    (∃ m, log s p = (List.range m).map (fun j => (p, j))) ∧
    (∀ j, (p, j + 1) ∈ log s p → stops c p j (c.out p j) = false) := by
  by_cases hidle : (s.ps p).ph = .idle
  · rw [unstarted_empty hlen hr p hidle]; exact ⟨⟨0, rfl⟩, nofun⟩
  · have hg := ginv_reach hlen hr
    rw [log, hg.log hidle]
    refine ⟨⟨_, rfl⟩, fun j hj => ?_⟩
    obtain ⟨i, hi, h⟩ := List.mem_map.mp hj
    cases h
    exact hg.cont p j (Nat.lt_of_succ_lt_succ (List.mem_range.mp hi))

/-- searching from `i`, `stopIndex` finds the first node at or after `i` that ends the traversal -/
theorem stopIndex_eq (p : Nat) : ∀ (fuel i k : Nat), i ≤ k → k < i + fuel →
    (∀ j, i ≤ j → j < k → stops c p j (c.out p j) = false) → stops c p k (c.out p k) = true →
    stopIndex c p fuel i = k := by
  intro fuel
  induction fuel with
  | zero => exact fun i k h1 h2 => absurd h2 (Nat.not_lt.mpr h1)
  | succ f ih =>
    intro i k h1 h2 hc hs
    unfold stopIndex
    by_cases hik : i = k
    · subst hik; rw [if_pos hs]
    · have hlt := Nat.lt_of_le_of_ne h1 hik
      rw [if_neg (by rw [hc i (Nat.le_refl i) hlt]; nofun)]
      exact ih (i + 1) k hlt (Nat.add_right_comm i 1 f ▸ h2) (fun j hj1 hj2 => hc j (Nat.le_of_succ_le hj1) hj2) hs

/-- **Exactly once when not cancelled.** If the context was never cancelled, then once Send has
returned (and hence all goroutines are gone) every pipeline has been traversed exactly once:
its log is nodes `0 … stop` where `stop` is the first node that dropped the event, returned an
error, or is the leaf — nothing skipped, nothing repeated, nothing after the stopping node. -/
theorem complete (hlen : ∀ p, p < c.n → 0 < c.len p) {s : S} (hr : Reach c s)
    (hnc : s.ctxDone = false) (hret : s.collExited = true) (p : Nat) (hp : p < c.n) :
    log s p = (List.range (summaryStop c p + 1)).map (fun j => (p, j)) := by
  have hi := pinv_reach hlen hr
  have hg := ginv_reach hlen hr
  have hfin := finished_of_returned hi hg hnc hret hp
  have hk := hi.kbound p hp (by rw [hfin]; nofun)
  have : summaryStop c p = (s.ps p).k :=
    stopIndex_eq p (c.len p) 0 (s.ps p).k (Nat.zero_le _) ((Nat.zero_add _).symm ▸ hk) (fun j _ hj => hg.cont p j hj)
      (hi.stopsAt p (Or.inr (Or.inr hfin)))
  unfold log
  rw [hg.log (by rw [hfin]; nofun), this]

open Evl.Registry in
/-- Send traverses exactly the pipelines registered for that event type at that moment, each once,
and no pipeline of any other type. -/
theorem selection (b : Broker) (ty : Nat) (g : Graph) (hg : lookupGraph b.graphs ty = some g) :
    ∃ e, (Registry.step b (.send ty)).2 = .sent ((b.pipes.filter (fun p => p.ty == ty)).map traverse) e := by
  unfold Registry.step stepSend
  simp only [hg]
  exact ⟨_, rfl⟩

open Evl.Registry in
/-- after any registration history the traversed set has one entry per registered key (no pipeline
is traversed twice because a key is registered at most once) -/
theorem selection_once (ops : List Op) (ty : Nat) :
    (((run Registry.init ops).pipes.filter (fun p => p.ty == ty)).map key).Nodup :=
  Keyed.nodup_map_filter (inv_run ops inv_init).pkeys

/-- Non-vacuity: a reachable, non-initial state of a two-pipeline system. -/
def demoCfg : Cfg := { n := 2, len := fun p => if p = 0 then 3 else 2, out := fun p k => if p = 0 ∧ k = 1 then .drop else .pass, sink := fun _ _ => false }
def fireAll (c : Cfg) : S → List Label → Option S
  | s, [] => some s
  | s, l :: ls => match fire c s l with
    | some s' => fireAll c s' ls
    | none => none
example : (fireAll demoCfg init [.rangeStart 1, .ret 1, .spawn 1, .doneRoot 1, .rangeStart 0, .ret 0, .spawn 0, .ret 0, .sendTry 0]).map (·.inv)
    = some [(1, 0), (1, 1), (0, 0), (0, 1)] := by decide +kernel
example : summaryStop demoCfg 0 = 1 ∧ summaryStop demoCfg 1 = 1 := by decide

end Evl.C01
