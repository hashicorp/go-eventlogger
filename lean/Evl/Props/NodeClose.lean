import Evl.Model.NodeClose
import Evl.Generated.Decisions
/-!
# Closing a registered node (C06, C12)

`close_spec`: with the cases of `NodeController.Close` as they are in the source (regenerated:
`close_on_source`), for every node shape — any nesting of wrappers — the loop returns, within one
iteration more than the nesting is deep (C12), and what it closes is
`target`: **the registered node's own `Close` when it is a Closer, decorator or not** (C06), otherwise the
first Closer found by unwrapping, nothing for a wrapper that holds nothing.
-/
namespace Evl.NodeClose

/-- which clause of `sourceCases` the type switch takes, given whether the node is a Closer (`a`) and a
NodeUnwrapper (`b`): a fact about a fixed table, left to the kernel (the elaborator is slow at comparing strings) -/
theorem hit_source (a b : Bool) :
    sourceCases.find? (fun c => (c.1 == "Closer" && a) || (c.1 == "NodeUnwrapper" && b) || c.1 == "default") =
      some (if a then ("Closer", .close) else if b then ("NodeUnwrapper", .unwrap) else ("default", .stop)) := by
  revert a b; decide +kernel

theorem closeLoop_source {fuel : Nat} {s : Shape} :
    closeLoop sourceCases (fuel + 1) (some s) =
      match s with
      | .plain => some none
      | .closer id => some (some id)
      | .closerWrapper id _ => some (some id)
      | .wrapper inner => closeLoop sourceCases fuel inner := by
  rw [closeLoop.eq_def]
  dsimp only
  rw [hit_source]
  cases s <;> rfl

theorem close_spec : ∀ (s : Shape) (fuel : Nat), depth s + 1 ≤ fuel → closeLoop sourceCases fuel (some s) = some (target s) := by
  intro s fuel
  induction fuel generalizing s with
  | zero => exact fun h => absurd h (Nat.not_succ_le_zero _)
  | succ fuel ih =>
    intro h
    rw [closeLoop_source]
    cases s with
    | plain | closer | closerWrapper => rfl
    | wrapper inner =>
      cases inner with
      | some s => exact ih s (Nat.le_of_succ_le_succ h)
      | none =>
        obtain ⟨f, rfl⟩ := Nat.exists_eq_add_of_le' (Nat.le_of_succ_le_succ h)
        rfl

/-- **The call returns** (C12), for every node shape: some number of iterations is enough. -/
theorem close_returns (s : Shape) : ∃ fuel r, closeLoop sourceCases fuel (some s) = some r :=
  ⟨depth s + 1, target s, close_spec s _ (Nat.le_refl _)⟩

theorem closes_own (id : Nat) (inner : Option Shape) (fuel : Nat) (h : 1 ≤ fuel) :
    closeLoop sourceCases fuel (some (.closerWrapper id inner)) = some (some id) := by
  obtain ⟨f, rfl⟩ := Nat.exists_eq_add_of_le' h
  exact closeLoop_source

/-- **It is the registered node that is closed** (C06): a registered Closer — also one that decorates
another node and says so — gets its own Close called, not the node inside. -/
theorem closes_registered_node (id : Nat) (inner : Option Shape) (fuel : Nat) (h : 2 ≤ fuel) :
    closeLoop sourceCases fuel (some (.closerWrapper id inner)) = some (some id) :=
  closes_own id inner fuel (Nat.le_of_succ_le h)

def actOf : String → Act
  | "close" => .close | "unwrap" => .unwrap | "stop" => .stop | _ => .other

/-- the model's cases are the source's (regenerated from node.go on every run) -/
theorem close_on_source : Evl.Generated.closeSwitch.map (fun c => (c.1, actOf c.2)) = sourceCases := by decide +kernel

/-- other case lists: with the NodeUnwrapper case first a decorator's own Close is skipped; with a clause that is
neither close, unwrap nor stop the loop is not shown to return -/
example : closeLoop [("NodeUnwrapper", .unwrap), ("Closer", .close), ("default", .stop)] 5 (some (.closerWrapper 1 (some (.closer 2)))) = some (some 2) := by
  decide +kernel
example : closeLoop [("Closer", .close), ("NodeUnwrapper", .other), ("default", .stop)] 5 (some (.wrapper none)) = none := by decide +kernel
example : closeLoop sourceCases 5 (some (.wrapper (some (.wrapper (some (.closerWrapper 7 none)))))) = some (some 7) := by decide +kernel

end Evl.NodeClose
