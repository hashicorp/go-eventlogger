import Evl.Model.Encrypt
import Evl.Lemmas.EncryptTree
import Evl.Lemmas.EncryptTag
/-!
# C09 — encrypt.Filter leaks no classified plaintext (secure default, fails closed)

Model: M7 `Encrypt`, compared leaf by leaf with the implementation (every produced value is decrypted /
recomputed with independent code).

**Scope (labelled partial).** Tag resolution is proved for *every* tag string and override map; the
no-leak and fail-closed theorems for flat struct payloads with any number of fields (M7), for nested
payloads to any depth in section `Tree` (M7t `EncryptTree`), and for Taggable map payloads under any list
of pointer tags in section `Tagged` (M7g `EncryptTag`).  What the two tree models leave out (their
headers: wrapper values, IgnoreTypes, arrays, Taggable values below the payload, pointer tags through
slices and structs) is decided on the implementation by the harness's canary oracle, not by a Lean
theorem.
**Known finding F6c (genuine defect, recorded):** a payload that is a struct passed *by value* is
forwarded with its sensitive / secret fields in plaintext (its fields are not settable and
`filterValue` silently skips them).  The library's own `ExampleFilter` expects that output.
-/
namespace Evl.C09
open Evl.Encrypt

theorem action_keep_iff (c : Cls) (op : Op) : action { cls := c, op := op } = .keep ↔ c = .pub ∨ op = .none :=
  action_keep { cls := c, op := op }

/-- **Secure default of tag resolution.** For every tag string and every override map, a value is
left in plaintext only if its classification segment is literally `public`, or an override maps
that very classification to "no operation". -/
theorem tag_secure (tag : Bytes) (ov : Overrides) (h : action (fromTagString tag ov) = .keep) :
    (splitComma tag).1 = sPublic ∨ lookupOv ov (splitComma tag).1 = some .none := by
  by_cases hp : (splitComma tag).1 = sPublic
  · exact .inl hp
  · unfold fromTagString at h
    cases hov : lookupOv ov (splitComma tag).1 <;> simp only [hov, hp, if_false] at h
    · -- the defaults of the other classifications protect, and the tag's operation segment cannot switch them off
      refine absurd h (iteInduction (motive := (action · ≠ .keep)) (fun _ h => ?_) fun _ =>
        iteInduction (motive := (action · ≠ .keep)) (fun _ h => ?_) fun _ => by decide)
      · exact ((action_keep_iff _ _).mp h).elim Cls.noConfusion (defaulted_ne_none .encrypt _ Op.noConfusion)
      · exact ((action_keep_iff _ _).mp h).elim Cls.noConfusion (defaulted_ne_none .redact _ Op.noConfusion)
    · -- the classification is not `pub`, so it is the override that keeps the value
      rcases (action_keep_iff _ _).mp h with hc | ho
      · exact absurd hc (iteInduction (motive := (· ≠ Cls.pub)) (fun _ => Cls.noConfusion) fun _ =>
          iteInduction (motive := (· ≠ Cls.pub)) (fun _ => Cls.noConfusion) fun _ => Cls.noConfusion)
      · exact .inr (congrArg some ho)

/-- untagged fields and unknown classification spellings (any case) are redacted -/
theorem unknown_redacted (tag : Bytes) (ov : Overrides)
    (h1 : (splitComma tag).1 ≠ sPublic) (h2 : (splitComma tag).1 ≠ sSensitive) (h3 : (splitComma tag).1 ≠ sSecret)
    (hov : lookupOv ov (splitComma tag).1 = none) :
    action (fromTagString tag ov) = .redact ∧ action (fromTag none ov) = .redact := by
  rw [fromTagString_unknown hov h1 h2 h3]
  exact ⟨rfl, rfl⟩

/-- the operation segment is case-insensitive and unknown spellings fall back to the default; the classification
segment is case-sensitive -/
example : convertToOperation [72, 77, 65, 67, 45, 83, 72, 65, 50, 53, 54] = .hmac := by decide
example : action (fromTagString (sSensitive ++ [44, 98, 111, 103, 117, 115]) []) = .encrypt := by decide
example : action (fromTagString [83, 101, 110, 115, 105, 116, 105, 118, 101] []) = .redact := by decide  -- "Sensitive"

def Protected (m : Nat) (l : Leaf) : Prop :=
  l = .redacted ∨ (∃ key, l = .enc key m) ∨ (∃ key s i, l = .mac key s i m)

theorem filterLeaf_noleak (k : Keys) (ek : Option EventKeys) (a : Action) (m : Nat) (l : Leaf)
    (ha : a ≠ .keep) (h : filterLeaf k ek a m = some l) : Protected m l :=
  (filterLeaf_cases h).resolve_left fun e => ha e.1

/-- a scalar string / []byte field not resolved to "keep" comes out protected -/
theorem filterOne_noleak (k : Keys) (ek : Option EventKeys) (ov : Overrides) (f : Field) (o : FOut) (m : Nat)
    (hex : f.exported = true) (hk : f.kind = .str m ∨ f.kind = .bytes (some m))
    (ha : action (fromTag f.tag ov) ≠ .keep) (h : filterOne k ek ov f = some o) : ∃ l, o = .one l ∧ Protected m l := by
  rw [filterOne_scalar hex hk] at h
  obtain ⟨l, hl, rfl⟩ := Option.map_eq_some_iff.mp h
  exact ⟨l, rfl, filterLeaf_noleak k ek _ m l ha hl⟩

/-- every non-nil element of a filtered slice comes out protected, position by position -/
theorem filterElems_noleak (k : Keys) (ek : Option EventKeys) (a : Action) (ha : a ≠ .keep) :
    ∀ (ms : List (Option Nat)) (ls : List Leaf), filterElems k ek a ms = some ls →
      ls.length = ms.length ∧ ∀ i (hi : i < ms.length) (hl : i < ls.length) (m : Nat), ms[i] = some m → Protected m (ls[i]) := by
  intro ms ls h
  obtain ⟨hlen, hall⟩ := mapM_some (filterElems_eq k ek a ms ▸ h)
  refine ⟨hlen, fun i hi hl m hm => filterLeaf_noleak k ek a m _ ha ?_⟩
  have := hall i hi hl
  rwa [hm] at this

/-- a class-tagged []string / [][]byte field that is not public: every element is protected -/
theorem slice_noleak (k : Keys) (ek : Option EventKeys) (ov : Overrides) (f : Field) (o : FOut) (ms : List (Option Nat))
    (hex : f.exported = true) (hk : f.kind = .bss ms ∨ ∃ ss, f.kind = .strs ss ∧ ms = ss.map some)
    (hpub : (fromTag f.tag ov).cls ≠ .pub) (ha : action (fromTag f.tag ov) ≠ .keep)
    (h : filterOne k ek ov f = some o) :
    ∃ ls, o = .many ls ∧ ls.length = ms.length ∧
      ∀ i (hi : i < ms.length) (hl : i < ls.length) (m : Nat), ms[i] = some m → Protected m (ls[i]) := by
  rw [filterOne_slice hex hk hpub] at h
  obtain ⟨ls, he, rfl⟩ := Option.map_eq_some_iff.mp h
  obtain ⟨h1, h2⟩ := filterElems_noleak k ek _ ha ms ls he
  exact ⟨ls, rfl, h1, h2⟩

/-- **No leak (flat structs, any number of fields).** If Process forwards a filtered copy, every
exported string / []byte field not resolved to "keep" is redacted, encrypted or HMAC-ed. -/
theorem flat_noleak (k : Keys) (ek : Option EventKeys) (ov : Overrides) :
    ∀ (fs : List Field) (ls : List FOut), filterFields k ek ov fs = some ls →
      ∀ i (hi : i < fs.length) (hl : i < ls.length) (m : Nat), (fs[i]).exported = true →
        ((fs[i]).kind = .str m ∨ (fs[i]).kind = .bytes (some m)) → action (fromTag (fs[i]).tag ov) ≠ .keep →
        ∃ l, ls[i] = .one l ∧ Protected m l :=
  fun fs _ h i hi hl m hex hk ha =>
    filterOne_noleak k ek ov fs[i] _ m hex hk ha ((mapM_some (filterFields_eq k ek ov fs ▸ h)).2 i hi hl)

/-- **Fails closed.** A field whose operation cannot be carried out (unknown operation, or encrypt /
hmac without any wrapper) makes Process return an error — never a partly filtered copy.  This holds
for scalar fields and for *any* element of a []string / [][]byte field, wherever it sits in the slice. -/
theorem fail_closed (k : Keys) (ek : Option EventKeys) (fails : Bool) (ov : Overrides) (fs : List Field) (f : Field)
    (hf : f ∈ fs) (hex : f.exported = true) (m : Nat)
    (hk : f.kind = .str m ∨ f.kind = .bytes (some m) ∨
      ((fromTag f.tag ov).cls ≠ .pub ∧ ((∃ ms, f.kind = .bss ms ∧ some m ∈ ms) ∨ (∃ ss, f.kind = .strs ss ∧ m ∈ ss))))
    (hbad : action (fromTag f.tag ov) = .error ∨
      ((action (fromTag f.tag ov) = .encrypt ∨ action (fromTag f.tag ov) = .hmac) ∧ keyFor k ek = none)) :
    ∀ ls, processFlat k ek fails ov fs ≠ .filtered ls := by
  have hleaf : filterLeaf k ek (action (fromTag f.tag ov)) m = none := by
    unfold filterLeaf
    rcases hbad with h | ⟨h | h, hkey⟩ <;> simp [*]
  have helems : ∀ ms : List (Option Nat), some m ∈ ms → filterElems k ek (action (fromTag f.tag ov)) ms = none :=
    fun ms h => filterElems_eq k ek _ ms ▸ mapM_none (x := some m) hleaf h
  have hone : filterOne k ek ov f = none := by
    rcases or_assoc.mpr hk with hk | ⟨hp, ⟨ms, hk, hm⟩ | ⟨ss, hk, hm⟩⟩
    · rw [filterOne_scalar hex hk, hleaf]; rfl
    · rw [filterOne_slice hex (.inl hk) hp, helems ms hm]; rfl
    · rw [filterOne_slice hex (.inr ⟨ss, hk, rfl⟩) hp, helems _ (List.mem_map.mpr ⟨m, hm, rfl⟩)]; rfl
  intro ls h
  cases (filterFields_none_of_mem hone hf).symm.trans (processFlat_filtered h)

section Tree
open Evl.EncryptTree

/-- **No leak at any depth.**  For every payload tree — structs, pointers, interface-held values,
slices, slices of slices, untagged maps, nested arbitrarily — that is *guarded* (every string /
[]byte in it is reached addressably and under a tag whose action is not `keep`; which tags those
are is `tag_secure` / `action_keep_iff`), whatever Process forwards contains nothing readable:
every value was redacted, encrypted or HMAC-ed.  Unclassified map values need no tag: they are
always redacted. -/
theorem tree_noleak (c : Ctx) (ewi : Bool) (v v' : V) (g : guardedPayload c v = true)
    (h : process c ewi v = .filtered v') : plains v' = [] :=
  (filtPayload_spec c v v' (process_filtered h)).2 g

/-- fail closed on trees: a step that fails anywhere in the tree makes Process fail (nothing is
forwarded half filtered) — `process` forwards only what `filtPayload` returned as a whole -/
theorem tree_fail_closed (c : Ctx) (ewi : Bool) (v : V) (h : filtPayload c v = none)
    (hops : ((effOps c.ov).all (· = .none)) = false) : process c ewi v = .error := by
  unfold process
  rw [if_neg (hops ▸ nofun), h]
  simp only [ite_self]

def tagBytes (s : String) : Bytes := s.toUTF8.toList.map (·.toNat)

/-- a nested payload: secret string, pointer to a struct, slice of structs, untagged map with a struct
value, slice of slices of structs -/
def demoTree : V :=
  .ptr (.struct
    (.cons (.field true (some sSecret)) (.leaf (.plain 1))
    (.cons (.field true none) (.ptr (.struct (.cons (.field true (some sSensitive)) (.leaf (.plain 2)) .nil)))
    (.cons (.field true none) (.slice (.cons .elem (.struct (.cons (.field true (some sSecret)) (.leaf (.plain 3)) .nil)) .nil))
    (.cons (.field true none) (.map (.cons (.key 1) (.leaf (.plain 4))
                                    (.cons (.key 2) (.struct (.cons (.field true (some sSensitive)) (.leaf (.plain 5)) .nil)) .nil)))
    (.cons (.field true none) (.slice (.cons .elem (.slice (.cons .elem (.struct (.cons (.field true (some sSecret)) (.leaf (.plain 6)) .nil)) .nil)) .nil))
     .nil))))))

def demoCtx : Ctx := { k := { wrapper := some 1, salt := some 1, info := some 1 }, ek := none, ov := [] }

/-- a concrete run is settled by evaluating one Boolean, which the kernel does by itself; on `⟨_, rfl, _⟩` the elaborator
unfolds the whole walk first, to find the witness -/
theorem filtered_of_eval {r : EncryptTree.Res} {l : List Nat}
    (h : (match r with | .filtered v => decide (plains v = l) | _ => false) = true) : ∃ v', r = .filtered v' ∧ plains v' = l := by
  cases r with
  | filtered v => exact ⟨v, rfl, of_decide_eq_true h⟩
  | _ => cases h

/-- non-vacuity: the premises of `tree_noleak` hold of a concrete nested payload, and it is filtered -/
example : guardedPayload demoCtx demoTree = true := by decide
example : plains demoTree = [1, 2, 3, 4, 5, 6] := by decide
example : ∃ v', process demoCtx false demoTree = .filtered v' ∧ plains v' = [] :=
  filtered_of_eval (by decide +kernel)

/-- the known finding F6c in the tree model: a struct passed BY VALUE is not guarded, and its
secret survives (the implementation agrees: `enctree` correspondence) -/
example : guardedPayload demoCtx (.struct (.cons (.field true (some sSecret)) (.leaf (.plain 1)) .nil)) = false := by decide
example : ∃ v', process demoCtx false (.struct (.cons (.field true (some sSecret)) (.leaf (.plain 1)) .nil)) = .filtered v' ∧ plains v' = [1] :=
  filtered_of_eval (by decide +kernel)

end Tree

section Tagged
open Evl.EncryptTree Evl.EncryptTag

/-- a pointer tag keeps a value exactly when a struct tag would: the classification is public, or
the operation in force for it is none -/
theorem tagAction_keep_iff (t : TagInfo) : tagAction t = .keep ↔ action t = .keep :=
  Evl.EncryptTag.tagAction_keep_iff t

/-- ... so a pointer tag that keeps its value names it public or is overridden to none (`tag_secure`) -/
theorem pointer_tag_secure (t : PTag) (ov : Overrides) (h : tagAction (fromTagString t.tagString ov) = .keep) :
    (splitComma t.tagString).1 = sPublic ∨ lookupOv ov (splitComma t.tagString).1 = some .none :=
  tag_secure _ ov ((tagAction_keep_iff _).mp h)

/-- a pointer tag whose classification is none of public / sensitive / secret (misspelt, mixed case,
empty) and has no override is an error: the value can be neither classified nor redacted in place, so
Process fails as a whole rather than let it pass -/
theorem misspelt_pointer_tag_fails (tag : Bytes) (ov : Overrides)
    (h0 : lookupOv ov (splitComma tag).1 = none)
    (h1 : (splitComma tag).1 ≠ sPublic) (h2 : (splitComma tag).1 ≠ sSensitive) (h3 : (splitComma tag).1 ≠ sSecret) :
    tagAction (fromTagString tag ov) = .error := by
  rw [fromTagString_unknown h0 h1 h2 h3]
  rfl

/-- **No leak through a Taggable map.**  A Taggable map (distinct keys, its non-string values guarded
the way the values of an untagged map have to be) with any list of *protecting* pointer tags — through
nested maps and pointers to maps, found or not, in any order, also naming the same map twice — comes
out with nothing readable: tagged strings were redacted / encrypted / HMAC-ed, every other string
(no tag names it: unclassified) was redacted. -/
theorem tagged_noleak (c : Ctx) (ewi : Bool) (tags : List PTag) (es : Items) (v' : V)
    (hk : keysOK [] es = true) (hg : guardedEntries c es = true)
    (hp : ∀ t ∈ tags, tagAction (fromTagString t.tagString c.ov) ≠ .keep)
    (h : processTagged c ewi tags es = .filtered v') : plains v' = [] :=
  (processTagged_spec h).2 hk hg hp

/-- **Secure default under any tags.**  A string under a top-level key that no pointer tag names (no
tag's pointer starts with that key) is unclassified: it comes out redacted, whatever the other tags,
the overrides and the key material are. -/
theorem untagged_key_redacted (c : Ctx) (ewi : Bool) (tags : List PTag) (es es' : Items) (k m : Nat)
    (hf : find k es = some (.leaf (.plain m)))
    (hn : ∀ t ∈ tags, t.path.head? ≠ some k)
    (h : processTagged c ewi tags es = .filtered (.map es')) : find k es' = some (.leaf .redacted) :=
  (processTagged_key hf (fun t ht hh => absurd hh (hn t ht)) h).2 fun t ht e => hn t ht (e ▸ rfl)

/-- fail closed: a pointer tag that cannot be applied makes Process fail (nothing half filtered is
forwarded) -/
theorem tagged_fail_closed (c : Ctx) (ewi : Bool) (tags : List PTag) (es : Items)
    (h : applyTags c tags { es := es, marks := [] } = none) (hops : ((effOps c.ov).all (· = .none)) = false) :
    processTagged c ewi tags es = .error := by
  unfold processTagged
  rw [if_neg (hops ▸ nofun), h]
  simp only [ite_self]

/-- a protecting tag whose value is found but cannot be filtered (here: an unusable classification on a
string) stops the tag list at once -/
theorem bad_tag_stops (c : Ctx) (s : TS) (t : PTag) (ts : List PTag) (m : Nat)
    (hg : getPath t.path s.es = .found (.leaf (.plain m)))
    (ha : tagAction (fromTagString t.tagString c.ov) = .error) : applyTags c (t :: ts) s = none := by
  simp [applyTags, applyTag, hg, ha, filterTagged, filterLeaf]

/-- a Taggable map: a secret string, a nested map with a sensitive string and an unnamed one, a
pointer to a map two levels down, an unnamed string -/
def demoTagged : Items :=
  .cons (.key 1) (.leaf (.plain 1))
  (.cons (.key 2) (.map (.cons (.key 1) (.leaf (.plain 2)) (.cons (.key 2) (.leaf (.plain 3)) .nil)))
  (.cons (.key 3) (.ptr (.map (.cons (.key 1) (.map (.cons (.key 1) (.leaf (.plain 4)) .nil)) .nil)))
  (.cons (.key 4) (.leaf (.plain 5)) .nil)))

def demoTags : List PTag :=
  [ { path := [1], cls := sSecret, op := [] }, { path := [2, 1], cls := sSensitive, op := [] },
    { path := [3, 1, 1], cls := sSensitive, op := sHmac }, { path := [9], cls := sSecret, op := [] } ]

/-- non-vacuity: the premises of `tagged_noleak` hold of a concrete Taggable map, which is filtered -/
example : keysOK [] demoTagged = true ∧ guardedEntries demoCtx demoTagged = true := by decide
example : ∀ t ∈ demoTags, tagAction (fromTagString t.tagString demoCtx.ov) ≠ .keep := by decide +kernel
example : plainsI demoTagged = [1, 2, 3, 4, 5] := by decide
example : ∃ v', processTagged demoCtx false demoTags demoTagged = .filtered v' ∧ plains v' = [] :=
  filtered_of_eval (by decide +kernel)
/-- a public tag keeps exactly its value: everything else is still protected -/
example : ∃ v', processTagged demoCtx false [{ path := [2, 2], cls := sPublic, op := [] }] demoTagged = .filtered v' ∧ plains v' = [3] :=
  filtered_of_eval (by decide +kernel)
/-- a misspelt classification on a found string: Process fails -/
example : (match processTagged demoCtx false [{ path := [1], cls := [83, 101, 99, 114, 101, 116], op := [] }] demoTagged with
    | .error => true | _ => false) = true := by decide

end Tagged

end Evl.C09
