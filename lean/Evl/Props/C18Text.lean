import Evl.Props.C18Verify
import Evl.Lemmas.CloudEventsDoc
/-!
# C18, continued — signed documents verify in both formats

`signed_is_docJM`: in either format the stored signed document — compacted as `json.Compact` does
(`text_compacts`) resp. without its newline (`doc_render`) — is the JSON text of the signed `docJM`, which passes
the consumer's check (`verifyDoc_docJM`).
-/
namespace Evl.C18
open Evl.CloudEvents Evl.Json

theorem signed_is_docJM (c : Cfg) (e : Ev) (signer : Bytes → Option Bytes) (p : Evl.CloudEvents.Pred) (f : Nat) (stored : Bytes)
    (hv : validate c = none) (hid : e.idIface ≠ some [])
    (dv : Option J) (hd : e.data = dv.map toks) (hdw : ∀ d, dv = some d → wf d = true)
    (tj : J) (ht : e.timeTok = renderJ tj) (htw : wf tj = true)
    (u : Bytes) (hu : unsignedDoc c e = some u)
    (hs : c.hasSigner = true) (hl : c.signTypes.contains e.ty = true)
    (hfw : process c e signer p = .forward f stored) :
    ∃ mac, signer u = some mac ∧ u ≠ [] ∧
      (if c.format == .text then compact stored else stored.dropLast) =
        renderJ (.obj (docJM (idOf e) (c.source.getD []) e.ty dv (if c.format == .text then ctText else ctJSON)
          (c.schema.getD []) tj (some (b64 u, mac)))) := by
  obtain ⟨mac, hsig, hst⟩ := signed c e signer p f stored hv hid u hu hs hl hfw
  obtain ⟨_, _, rfl⟩ := encode_some hu
  obtain ⟨x, hx, rfl⟩ := encode_some hst.symm
  refine ⟨mac, hsig, by simp, ?_⟩
  rw [hd, ht] at hx
  cases hf : c.format == .text
  · simp only [hf, Bool.false_eq_true, if_false] at hx ⊢
    rw [doc_render] at hx
    rw [List.dropLast_concat, Option.some.inj hx]
  · simp only [hf, if_true] at hx ⊢
    exact text_compacts _ _ _ dv _ _ tj _ hdw htw x hx

/-- **A signed cloudevents-json document verifies.**  For every valid configuration with the compact
format, every event whose data is (the token stream of) a JSON value or absent and whose time token is
the JSON text of a value, and every signer whose signatures are non-empty valid UTF-8 strings: when
the type is listed and the document is forwarded, the consumer's check succeeds on the stored bytes —
the document parses, `serialized` base64url-decodes to exactly the unsigned document `u`, and
`serialized_hmac` is the signer's result for `u`.  (`hb`: `u` is a byte string — the model's bytes are
natural numbers.) -/
theorem signed_verifies (c : Cfg) (e : Ev) (signer : Bytes → Option Bytes) (p : Evl.CloudEvents.Pred) (f : Nat) (stored : Bytes)
    (hv : validate c = none) (hid : e.idIface ≠ some []) (hfmt : (c.format == .text) = false)
    (dv : Option J) (hd : e.data = dv.map toks) (hdw : ∀ d, dv = some d → wf d = true)
    (tj : J) (ht : e.timeTok = renderJ tj) (htw : wf tj = true)
    (u : Bytes) (hu : unsignedDoc c e = some u) (hb : ∀ b ∈ u, b < 256)
    (hs : c.hasSigner = true) (hl : c.signTypes.contains e.ty = true)
    (hmac : ∀ mac, signer u = some mac → mac ≠ [] ∧ sanitize mac = mac)
    (hfw : process c e signer p = .forward f stored) :
    verify signer stored = .verified := by
  obtain ⟨mac, hsig, hune, hdoc⟩ := signed_is_docJM c e signer p f stored hv hid dv hd hdw tj ht htw u hu hs hl hfw
  simp only [hfmt, Bool.false_eq_true, if_false] at hdoc
  rw [verify, hdoc]
  exact verifyDoc_docJM hdw htw hune hb hsig (hmac mac hsig).1 (hmac mac hsig).2

/-- **A signed cloudevents-text document verifies**: compacted (as `json.Compact` does), the stored
indented document is the JSON text of the same object as in the compact format; its `serialized` member
base64url-decodes to exactly the (indented) unsigned document and `serialized_hmac` is the signer's
result for those bytes. -/
theorem signed_text_verifies (c : Cfg) (e : Ev) (signer : Bytes → Option Bytes) (p : Evl.CloudEvents.Pred) (f : Nat) (stored : Bytes)
    (hv : validate c = none) (hid : e.idIface ≠ some []) (hfmt : (c.format == .text) = true)
    (dv : Option J) (hd : e.data = dv.map toks) (hdw : ∀ d, dv = some d → wf d = true)
    (tj : J) (ht : e.timeTok = renderJ tj) (htw : wf tj = true)
    (u : Bytes) (hu : unsignedDoc c e = some u) (hb : ∀ b ∈ u, b < 256)
    (hs : c.hasSigner = true) (hl : c.signTypes.contains e.ty = true)
    (hmac : ∀ mac, signer u = some mac → mac ≠ [] ∧ sanitize mac = mac)
    (hfw : process c e signer p = .forward f stored) :
    verifyText signer stored = .verified := by
  obtain ⟨mac, hsig, hune, hdoc⟩ := signed_is_docJM c e signer p f stored hv hid dv hd hdw tj ht htw u hu hs hl hfw
  simp only [hfmt, if_true] at hdoc
  rw [verifyText, hdoc]
  exact verifyDoc_docJM hdw htw hune hb hsig (hmac mac hsig).1 (hmac mac hsig).2

/-- **A signed cloudevents-json document verifies** — `signed_verifies` with the byte-string premise
discharged from the inputs. -/
theorem signed_document_verifies (c : Cfg) (e : Ev) (signer : Bytes → Option Bytes) (p : Evl.CloudEvents.Pred) (f : Nat) (stored : Bytes)
    (hv : validate c = none) (hid : e.idIface ≠ some []) (hfmt : (c.format == .text) = false) (hi : InputsOK c e)
    (dv : Option J) (hd : e.data = dv.map toks) (hdw : ∀ d, dv = some d → wf d = true)
    (tj : J) (ht : e.timeTok = renderJ tj) (htw : wf tj = true)
    (u : Bytes) (hu : unsignedDoc c e = some u)
    (hs : c.hasSigner = true) (hl : c.signTypes.contains e.ty = true)
    (hmac : ∀ mac, signer u = some mac → mac ≠ [] ∧ sanitize mac = mac)
    (hfw : process c e signer p = .forward f stored) :
    verify signer stored = .verified :=
  signed_verifies c e signer p f stored hv hid hfmt dv hd hdw tj ht htw u hu (unsigned_bytes c e hfmt hi u hu) hs hl hmac hfw

/-- **A signed cloudevents-text document verifies** — `signed_text_verifies` with the byte-string premise
discharged from the inputs. -/
theorem signed_text_document_verifies (c : Cfg) (e : Ev) (signer : Bytes → Option Bytes) (p : Evl.CloudEvents.Pred) (f : Nat) (stored : Bytes)
    (hv : validate c = none) (hid : e.idIface ≠ some []) (hfmt : (c.format == .text) = true) (hi : InputsOK c e)
    (dv : Option J) (hd : e.data = dv.map toks) (hdw : ∀ d, dv = some d → wf d = true)
    (tj : J) (ht : e.timeTok = renderJ tj) (htw : wf tj = true)
    (u : Bytes) (hu : unsignedDoc c e = some u)
    (hs : c.hasSigner = true) (hl : c.signTypes.contains e.ty = true)
    (hmac : ∀ mac, signer u = some mac → mac ≠ [] ∧ sanitize mac = mac)
    (hfw : process c e signer p = .forward f stored) :
    verifyText signer stored = .verified :=
  signed_text_verifies c e signer p f stored hv hid hfmt dv hd hdw tj ht htw u hu (unsignedDoc_ok c e hi u hu) hs hl hmac hfw

/-- `json.Compact` as modelled: white space outside strings goes, inside strings stays -/
example : compact [123, 10, 32, 32, 34, 97, 32, 34, 58, 32, 91, 49, 44, 10, 50, 93, 10, 125, 10] = [123, 34, 97, 32, 34, 58, 91, 49, 44, 50, 93, 125] := by
  decide +kernel
example : compact [34, 92, 34, 32, 34, 32] = [34, 92, 34, 32, 34] := by decide

end Evl.C18

