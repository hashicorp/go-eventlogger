import Evl.Model.Locks
import Evl.Props.NodeClose
import Evl.Generated.LockSites
/-!
# C12 — Broker calls terminate even when nodes call back into the Broker

Model: M3 `Locks` (writer-preferring RWMutex derived from thread statuses) + the call-back sites
regenerated from the source (`Evl.Generated.brokerCallbacks`, `nestedAcquisitions`).  The source is flat
(`on_source`: every call into user code is made with no lock held), so a node that calls back into the Broker
runs its own flat critical sections and `flat_progress` applies to the expanded threads; the two
`*_reentry_deadlocks*` converses are why the call-back sites matter.

`Evl.Props.NodeClose` (`close_returns`, `close_on_source`: the loop that closes a node returns for every node
shape) is imported because check C12 audits its theorems through this module.
-/
namespace Evl.C12
open Evl.Locks

theorem flat_next (s : Sys) {t : Thread} (hf : t.flat = true) :
    (∃ t', next s t = some t' ∧ t'.flat = true) ∨
    next s t = none ∧ (t.st = .idle ∧ (t.prog = [] ∨ anyWriter s = true) ∨ t.st = .waitW ∧ anyHolder s = true) := by
  obtain ⟨st, _ | ⟨i, p⟩⟩ := t
  · cases st
    case idle => exact .inr ⟨rfl, .inl ⟨rfl, .inl rfl⟩⟩
    all_goals cases hf
  cases st <;> cases i
  case idle.rlock =>
    cases hw : anyWriter s
    · exact .inl ⟨_, if_neg (hw ▸ Bool.false_ne_true), hf⟩
    · exact .inr ⟨if_pos hw, .inl ⟨rfl, .inr rfl⟩⟩
  case waitW.lock =>
    cases hh : anyHolder s
    · exact .inl ⟨_, if_neg (hh ▸ Bool.false_ne_true), hf⟩
    · exact .inr ⟨if_pos hh, .inr ⟨rfl, rfl⟩⟩
  -- every other pair is not flat, or moves unconditionally
  all_goals first | cases hf | exact .inl ⟨_, rfl, hf⟩

theorem flat_step {s : Sys} {t t' : Thread} (hf : t.flat = true) (hn : next s t = some t') : t'.flat = true := by
  rcases flat_next s hf with ⟨_, h1, h2⟩ | ⟨h1, _⟩
  · exact Option.some.inj (h1.symm.trans hn) ▸ h2
  · cases h1.symm.trans hn

/-- **No wedge.** If every thread is flat, an unfinished system always has a thread that can move. -/
theorem flat_progress (s : Sys) (hflat : ∀ t ∈ s, t.flat = true) (hnf : finished s = false) :
    ∃ t ∈ s, (next s t).isSome = true := by
  -- were every thread blocked, `flat_next` gives each its reason, and the reasons run out: a flat holder is never
  -- blocked, so nobody holds; so no writer waits in vain and all are idle; so there is no writer, and an idle thread
  -- without one is blocked only at the end of its program
  refine Decidable.byContradiction fun hno => ?_
  have blocked : ∀ t ∈ s, t.st = .idle ∧ (t.prog = [] ∨ anyWriter s = true) ∨ t.st = .waitW ∧ anyHolder s = true :=
    fun t ht => ((flat_next s (hflat t ht)).resolve_left fun ⟨_, h, _⟩ => hno ⟨t, ht, h ▸ rfl⟩).2
  have hh : anyHolder s = false :=
    List.any_eq_false.mpr fun t ht => by rcases blocked t ht with ⟨h, _⟩ | ⟨h, _⟩ <;> rw [h] <;> nofun
  have idle : ∀ t ∈ s, t.st = .idle ∧ (t.prog = [] ∨ anyWriter s = true) :=
    fun t ht => (blocked t ht).resolve_right fun h => by rw [hh] at h; cases h.2
  have hw : anyWriter s = false := List.any_eq_false.mpr fun t ht => by rw [(idle t ht).1]; nofun
  refine Bool.false_ne_true (hnf.symm.trans (List.all_eq_true.mpr fun t ht => ?_))
  rw [(idle t ht).2.resolve_right (hw ▸ Bool.false_ne_true)]; rfl

/-- Re-entering the Broker under its write lock wedges the thread for ever, whatever the others do. -/
theorem w_reentry_deadlocks (s : Sys) (p : List Instr) (i : Instr) (hi : i = .rlock ∨ i = .lock) :
    next s { st := .holdW, prog := i :: p } = none := by
  rcases hi with rfl | rfl <;> rfl

theorem reader_reentry_blocked {s : Sys} (p : List Instr) (h : anyWriter s = true) :
    next s { st := .holdR, prog := .rlock :: p } = none := if_pos h

theorem writer_blocked {s : Sys} (q : List Instr) (h : anyHolder s = true) :
    next s { st := .waitW, prog := .lock :: q } = none := if_pos h

/-- Re-entering under the read lock wedges as soon as a writer is waiting (writer preference): the
reader waits for the writer, the writer for the reader. -/
theorem r_reentry_deadlocks_with_writer (p q : List Instr) :
    let s : Sys := [{ st := .holdR, prog := .rlock :: p }, { st := .waitW, prog := .lock :: q }]
    ∀ t ∈ s, next s t = none := by
  intro s t ht
  simp only [s, List.mem_cons, List.mem_nil_iff, or_false] at ht
  rcases ht with rfl | rfl
  · exact reader_reentry_blocked p rfl
  · exact writer_blocked q rfl

/-- **The source is flat.** Every call into user code reachable from an exported Broker method is
made without Broker.lock and without any other lock of the library (a call-back handed to an inlined
helper such as the pipeline map's `Range` counts the helper's locks: a read lock held there would
wedge a re-entering root node against a waiting writer, `r_reentry_deadlocks_with_writer`), nowhere in
the library is a lock acquired while already held, and no exported function returns on any path with
a lock still held (no leaked lock). -/
theorem on_source :
    (Evl.Generated.brokerCallbacks.all (fun c => c.brokerLock == 0 && c.otherLocks == 0)) = true ∧
    Evl.Generated.nestedAcquisitions = 0 ∧
    Evl.Generated.lockLeaks = 0 ∧
    -- the table is not vacuous: Process, Reopen and Close call-backs were all found
    (Evl.Generated.brokerCallbacks.any (fun c => c.kind == 0)) = true ∧
    (Evl.Generated.brokerCallbacks.any (fun c => c.kind == 1)) = true ∧
    (Evl.Generated.brokerCallbacks.any (fun c => c.kind == 2)) = true := by
  decide

/-- Non-vacuity: Send (read section, then the node's Process calling back into Send), a concurrent
RegisterPipeline (write section) and RemoveNode (write section, then Close calling back into Send). -/
def demoSys : Sys :=
  [ { prog := [.rlock, .work, .runlock, .work, .rlock, .work, .runlock] },
    { prog := [.lock, .work, .unlock] },
    { prog := [.lock, .work, .unlock, .rlock, .work, .runlock] } ]
example : ∀ t ∈ demoSys, t.flat = true := by decide
example : finished demoSys = false := by decide

end Evl.C12
