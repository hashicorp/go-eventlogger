import Evl.Lemmas.Gated
import Evl.Generated.LockSites
import Evl.Lemmas.GatedSpec
/-!
# C11 — gated.Filter neither loses, duplicates nor reorders gated events

Model: M6 `Gated`.  Loss and duplication are a multiset equation (`conservation`); grouping and
arrival order are a refinement of the per-id queue specification of `Evl.Lemmas.GatedSpec` (`grouping`).
-/
namespace Evl.C11
open Evl.Gated

/-- The events an operation makes the filter accept: a Gateable event is accepted when Process
returns without error, or when it was consumed by a flush composition that then failed. -/
def accepted (op : Op) (o : Out) : List Nat :=
  match op with
  | .ev uid _ _ _ _ =>
    match o.ret with
    | .gated => [uid]
    | .flushed _ => [uid]
    | .errCompose => if o.emits.getLast?.map (·.fate) = some .flushComposeErr then [uid] else []
    | _ => []
  | _ => []

theorem fateErr_compose {x : Fate} (h : fateErr x = .errCompose) : x = .composeErr := by
  cases x <;> simp [fateErr] at h ⊢

theorem accepted_lastErr {uid id : Nat} {flush : Bool} {now : Int} {f : Fail} (es : List Emit) :
    accepted (.ev uid id flush now f) ⟨lastErr es, es⟩ = [] := by
  unfold accepted
  rcases lastErr_cases es with h | h | h | ⟨h, h2⟩
  · simp [h]
  · simp [h]
  · simp [h]
  · simp [h, h2]

theorem accepted_flushFailed {uid id : Nat} {flush : Bool} {now : Int} {f : Fail} {es : List Emit} {e : Emit}
    (he : e.fate = .flushComposeErr) : accepted (.ev uid id flush now f) ⟨.errCompose, es ++ [e]⟩ = [uid] := by
  simp only [accepted, List.getLast?_concat, Option.map_some, he, if_true]

section phases
variable {x : Fate} {p : Group → Bool} {gs gs1 gs3 : List Group} {es : List Emit} {ok : Bool}

theorem arrive_perm (hs : Sweep x p gs gs1 es ok) {id uid : Nat} {exp : Int} :
    (gatedEvents gs ++ [uid]).Perm (gatedEvents (addEvent gs1 id uid exp) ++ leaving es) :=
  ((hs.perm.append_right _).trans (perm_append_right_comm ..)).trans ((addEvent_perm ..).symm.append_right _)

theorem flush_perm (hs : Sweep x p gs gs1 es ok) {id uid : Nat} {exp : Int} {g : Group}
    (ht : takeGroup (addEvent gs1 id uid exp) id = some (g, gs3)) {y : Fate} :
    (gatedEvents gs ++ [uid]).Perm (gatedEvents gs3 ++ leaving (es ++ [⟨id, g.evs, y⟩])) := by
  rw [leaving_concat, ← List.append_assoc]
  exact (arrive_perm hs).trans (((takeGroup_perm ht).append_right _).trans (perm_append_right_comm ..))

theorem arrive_refines (hs : Sweep x p gs gs1 es ok) {id uid : Nat} {exp : Int} :
    Refines gs (es.map relOf ++ [.arrive id uid]) (addEvent gs1 id uid exp) :=
  .trans (hs.refines []) fun hw => (addEvent_refines gs1 id uid exp hw).imp_left fun e => congrArg some e.symm

theorem flush_refines (hs : Sweep x p gs gs1 es ok) {id uid : Nat} {exp : Int} {g : Group}
    (ht : takeGroup (addEvent gs1 id uid exp) id = some (g, gs3)) :
    Refines gs (es.map relOf ++ [.arrive id uid] ++ [.release id g.evs]) gs3 :=
  .trans (arrive_refines hs) (.step (takeGroup_refines · ht))

end phases

/-- One operation conserves events: gated before + accepted = gated after + left the gate. -/
theorem conservation_step (c : Cfg) (gs : List Group) (op : Op) :
    (gatedEvents gs ++ accepted op (step c gs op).2).Perm
      (gatedEvents (step c gs op).1 ++ leaving (step c gs op).2.emits) := by
  cases op with
  | ng uid => exact .refl _
  | flushAll f | close f =>
    exact .trans (.of_eq (List.append_nil _)) (flushAllStep_sweep c gs f).perm
  | ev uid id flush now f =>
    have hs := step_ev c gs uid id flush now f
    generalize step c gs (.ev uid id flush now f) = r at hs
    induction hs with
    | noId _ => exact .refl _
    | sweepFailed hs => rw [accepted_lastErr, List.append_nil]; exact hs.perm
    | gated hs => exact arrive_perm hs
    | flushFailed hs ht =>
      rw [accepted_flushFailed rfl]
      exact flush_perm hs ht
    | flushed hs ht => exact flush_perm hs ht

/-- accepted / left events along a history -/
def runLog (c : Cfg) : List Group → List Op → List Group × List Nat × List Nat
  | gs, [] => (gs, [], [])
  | gs, op :: rest =>
    let r := step c gs op
    let (gs', acc, left) := runLog c r.1 rest
    (gs', accepted op r.2 ++ acc, leaving r.2.emits ++ left)

/-- No accepted event is lost: over every history, the accepted events are exactly (as a multiset)
the events that left the gate (handed to composition, or dropped when no Broker is configured)
plus the events still gated. -/
theorem conservation (c : Cfg) (gs : List Group) (ops : List Op) :
    (gatedEvents gs ++ (runLog c gs ops).2.1).Perm
      (gatedEvents (runLog c gs ops).1 ++ (runLog c gs ops).2.2) := by
  induction ops generalizing gs with
  | nil => exact .refl _
  | cons op rest ih =>
    simp only [runLog]
    -- (gs ++ a) ++ A ~ (gs' ++ l) ++ A ~ (gs' ++ A) ++ l ~ (gs'' ++ L) ++ l ~ (gs'' ++ l) ++ L
    rw [← List.append_assoc, ← List.append_assoc]
    exact (((conservation_step c gs op).append_right _).trans (perm_append_right_comm ..)).trans
      (((ih _).append_right _).trans (perm_append_right_comm ..))

theorem no_duplication_from (c : Cfg) (gs : List Group) (ops : List Op)
    (h : (gatedEvents gs ++ (runLog c gs ops).2.1).Nodup) :
    (gatedEvents (runLog c gs ops).1 ++ (runLog c gs ops).2.2).Nodup :=
  (conservation c gs ops).nodup_iff.mp h

/-- None is duplicated: if the events offered are pairwise distinct, no event leaves the
gate twice, and no event that left is still gated. -/
theorem no_duplication (c : Cfg) (ops : List Op) (h : ((runLog c [] ops).2.1).Nodup) :
    (gatedEvents (runLog c [] ops).1 ++ (runLog c [] ops).2.2).Nodup :=
  no_duplication_from c [] ops h

/-- Non-Gateable events pass through unchanged and touch nothing. -/
theorem passthrough (c : Cfg) (gs : List Group) (uid : Nat) : step c gs (.ng uid) = (gs, ⟨.pass, []⟩) := rfl

/-- Events without an ID are rejected and touch nothing. -/
theorem no_id_rejected (c : Cfg) (gs : List Group) (uid : Nat) (flush : Bool) (now : Int) (f : Fail) :
    step c gs (.ev uid 0 flush now f) = (gs, ⟨.errNoId, []⟩) := rfl

/-- A composite that is itself Gateable is never sent through the Broker. -/
theorem never_gateable_via_broker (c : Cfg) (f : Fail) (g : Group) (h : (openGate c f g).1.fate = .sent) :
    ¬ (f.cg ≠ 0 ∧ g.id = f.cg) := by
  rintro ⟨h1, h2⟩
  unfold openGate at h
  by_cases hcf : (f.cf != 0 && g.id == f.cf) = true
  · rw [if_pos hcf] at h; cases h
  · rw [if_neg hcf, if_pos (by simp [h1, h2])] at h; cases h

/-- A flush event hands its id's group, ending with the flush event itself, to composition, and the
composite of exactly those events is what Process returns (it continues down the pipeline). -/
theorem flush_trigger (c : Cfg) (gs : List Group) (uid id : Nat) (now : Int) (f : Fail) (evs : List Nat)
    (h : (step c gs (.ev uid id true now f)).2.ret = .flushed evs) :
    (step c gs (.ev uid id true now f)).2.emits.getLast? = some ⟨id, evs, .flushed⟩ ∧
    evs.getLast? = some uid := by
  have hs := step_ev c gs uid id true now f
  generalize step c gs (.ev uid id true now f) = r at h hs
  cases hs with
  | noId _ | flushFailed _ _ => cases h
  | sweepFailed hs => exact absurd h ((lastErr_ne _).2 evs)
  | flushed hs ht hlast =>
    cases h
    exact ⟨List.getLast?_concat, hlast⟩

/-- The specification actions an operation stands for, read off its observable output: first the
groups opened by the expiry sweep / FlushAll / Close, then the arrival of the event if it was
accepted, then — for a flush event — the release of the event's own group. -/
def acts (op : Op) (o : Out) : List Act :=
  match op with
  | .ev uid id _ _ _ =>
    if accepted op o = [] then o.emits.map relOf
    else match o.ret with
      | .gated => o.emits.map relOf ++ [.arrive id uid]
      | _ => o.emits.dropLast.map relOf ++ [.arrive id uid] ++ o.emits.getLast?.toList.map relOf
  | _ => o.emits.map relOf

theorem acts_flush {uid id : Nat} {flush : Bool} {now : Int} {f : Fail} {ret : Ret} {es : List Emit} {e : Emit}
    (hret : ret = .errCompose ∧ e.fate = .flushComposeErr ∨ ∃ evs, ret = .flushed evs) :
    acts (.ev uid id flush now f) ⟨ret, es ++ [e]⟩ = es.map relOf ++ [.arrive id uid] ++ [relOf e] := by
  rcases hret with ⟨rfl, he⟩ | ⟨_, rfl⟩
  · simp only [acts, accepted_flushFailed he, List.cons_ne_nil, if_false, List.dropLast_concat,
      List.getLast?_concat, Option.toList_some, List.map_cons, List.map_nil]
  · simp only [acts, accepted, List.cons_ne_nil, if_false, List.dropLast_concat,
      List.getLast?_concat, Option.toList_some, List.map_cons, List.map_nil]

/-- One operation refines the specification: its actions are enabled in the specification state
`pend gs` (so every release carries exactly the pending events of its id, in arrival order) and lead
to the specification state of the gate after the operation. -/
theorem grouping_step (c : Cfg) (gs : List Group) (op : Op) (hw : Wf gs) :
    specRun (pend gs) (acts op (step c gs op).2) = some (pend (step c gs op).1) ∧ Wf (step c gs op).1 := by
  cases op with
  | ng uid => exact ⟨rfl, hw⟩
  | flushAll f | close f => exact (flushAllStep_sweep c gs f).refines [] hw
  | ev uid id flush now f =>
    have hs := step_ev c gs uid id flush now f
    generalize step c gs (.ev uid id flush now f) = r at hs
    induction hs with
    | noId _ => exact ⟨rfl, hw⟩
    | sweepFailed hs =>
      rw [acts, if_pos (accepted_lastErr _)]
      exact hs.refines [] hw
    | gated hs => exact arrive_refines hs hw
    | flushFailed hs ht =>
      rw [acts_flush (.inl ⟨rfl, rfl⟩)]
      exact flush_refines hs ht hw
    | flushed hs ht =>
      rw [acts_flush (.inr ⟨_, rfl⟩)]
      exact flush_refines hs ht hw

def allActs (c : Cfg) : List Group → List Op → List Act
  | _, [] => []
  | gs, op :: rest => acts op (step c gs op).2 ++ allActs c (step c gs op).1 rest

theorem grouping_from (c : Cfg) (gs : List Group) (ops : List Op) : Refines gs (allActs c gs ops) (run c gs ops).1 := by
  induction ops generalizing gs with
  | nil => exact fun hw => ⟨rfl, hw⟩
  | cons op rest ih => exact .trans (grouping_step c gs op) (ih _)

/-- **Grouping and arrival order, every history.**  From the empty gate, whatever the operations,
clock values and injected failures, the specification can run the history's actions: every group
that left the gate was exactly the events of its id received since the id's group was opened, in
arrival order, and what is still gated is what the specification holds pending. -/
theorem grouping (c : Cfg) (ops : List Op) :
    specRun (pend []) (allActs c [] ops) = some (pend (run c [] ops).1) :=
  (grouping_from c [] ops wf_nil).1

/-- the specification does reject wrong groupings (the refinement is not vacuous) -/
example : specRun (pend []) [.arrive 1 10, .arrive 2 11, .arrive 1 12, .release 1 [10, 12]] ≠ none := by decide
example : specRun (pend []) [.arrive 1 10, .arrive 2 11, .arrive 1 12, .release 1 [12, 10]] = none := by decide
example : specRun (pend []) [.arrive 1 10, .arrive 2 11, .arrive 1 12, .release 1 [10]] = none := by decide
example : specRun (pend []) [.arrive 1 10, .arrive 2 11, .release 1 [10, 11]] = none := by decide
example : specRun (pend []) [.arrive 1 10, .release 1 [10], .release 1 [10]] = none := by decide

/-- Two ids interleaved with a non-Gateable event, a flush event, an expiry (id 1 at time 30), a FlushAll
whose Send fails on id 3, Close. -/
def demoOps : List Op :=
  [ .ev 1 1 false 0 {}, .ev 2 2 false 1 {}, .ng 3, .ev 4 1 false 2 {}, .ev 5 2 true 3 {}, .ev 6 3 false 30 {},
    .flushAll { sf := 3 }, .ev 7 1 false 31 {}, .close {} ]
example : (runLog ⟨true, 10⟩ [] demoOps).2.1 = [1, 2, 4, 5, 6, 7] := by decide +kernel
example : (runLog ⟨true, 10⟩ [] demoOps).2.2 = [2, 5, 1, 4, 6, 7] := by decide +kernel
example : (runLog ⟨true, 10⟩ [] demoOps).1 = [] := by decide +kernel

example : (allActs ⟨true, 10⟩ [] demoOps).length = 10 := by decide +kernel

/-- **Each step of the model is one critical section of the code** (regenerated from
filters/gated/gated.go on every run; the same fact as `C17.sections_on_source`): `Close` and
`FlushAll` hold `Filter.l` from beginning to end; `Process` is initialisation, the expiry sweep and the
update of the event's own group, each under one exclusive acquisition.  With concurrent senders the
history the theorems quantify over is the order of these sections. -/
theorem sections_on_source : Evl.Generated.gatedSections = [1, 1, 3] := by decide

end Evl.C11
