import Evl.Lemmas.DispatchInv
import Evl.Generated.DispatchFacts
import Evl.Generated.LockSites
import Evl.Generated.RegistryFacts
/-!
# C03 — Send always returns and leaves no goroutine behind, whatever the cancel point

Model: M2 `Dispatch`, the labelled transition system of graph.go's `process` / `doProcess`.
Every interleaving of the collector, the ranger and the per-child goroutines is a run of the system;
`cancel` is a step that may fire at any point (including first, and never).  All theorems are for
any number of pipelines of any (positive) length with any node outcomes.

What the model cannot exhibit (labelled partial): wall-clock promptness and the scheduler's
fairness.  `prompt` is an *enabledness* statement; that an enabled `select` arm is
eventually taken is the Go runtime's contract.
-/
namespace Evl.C03
open Evl.Dispatch

variable {c : Cfg}

/-- The steps the protocol takes by itself: not a node returning (`ret`: user code), not a cancellation (`cancel`:
the caller's context), not the collector's way out after one (`collectCtx`).  The last two are enabled in almost
every state, so only a step outside them says that an *uncancelled* Send moves on. -/
def unaided : Label → Bool
  | .ret _ | .cancel | .collectCtx => false
  | _ => true

/-- A pipeline with a goroutine left that is not inside `Process` has an enabled step.  The case with an idea
in it is the status send, which cannot block for good: the collector leaves only when the context is done (then
the sender's other arm is enabled) or the channel is closed (then nobody is busy). -/
theorem busy_progress {s : S} (hi : PInv c s) {p : Nat} (hp : p < c.n) (hb : (s.ps p).busy = true)
    (hnc : (s.ps p).ph ≠ .calling) : ∃ l s', unaided l = true ∧ fire c s l = some s' := by
  by_cases hown : (s.ps p).owing > 0
  · exact ⟨.doneOwing p, _, rfl, if_pos ⟨hp, hown⟩⟩
  by_cases hro : (s.ps p).rootOwes = true
  · exact ⟨.doneRoot p, _, rfl, if_pos ⟨hp, hro, hi.rootCur p (.inl hro)⟩⟩
  have hlive : (s.ps p).live = true := by
    rw [busy_eq] at hb; simpa [hown, hro] using hb
  cases hph : (s.ps p).ph with
  | idle | finished => simp [PS.live, hph] at hlive
  | calling => exact absurd hph hnc
  | decided o =>
    cases hst : stops c p (s.ps p).k o with
    | true => exact ⟨.sendTry p, _, rfl, fire_sendTry.mpr ⟨o, hph, ⟨hp, hst⟩, rfl⟩⟩
    | false => exact ⟨.spawn p, _, rfl, fire_spawn.mpr ⟨o, hph, ⟨hp, hst⟩, rfl⟩⟩
  | sending =>
    cases hc : s.collExited with
    | false => exact ⟨.rendezvous p, _, rfl, if_pos ⟨hp, hph, hc⟩⟩
    | true =>
      rcases hi.coll hc with hd | hcl
      · exact ⟨.sendAbort p, _, rfl, if_pos ⟨hp, hph, hd⟩⟩
      · exact absurd hcl (hi.active hp hb).2
  | finishing =>
    by_cases hk : (s.ps p).k = 0
    · exact ⟨.doneCur p, _, rfl, fire_doneCur.mpr ⟨⟨hp, hph⟩, .inl ⟨hk, hi.rootCur p (.inr ⟨hk, hlive⟩), rfl⟩⟩⟩
    · exact ⟨.doneCur p, _, rfl, fire_doneCur.mpr ⟨⟨hp, hph⟩, .inr ⟨hk, rfl⟩⟩⟩

theorem quiet_progress {s : S} (hi : PInv c s) (hq : ∀ p, p < c.n → (s.ps p).busy = false) (hnt : ¬ Terminal s) :
    ∃ l s', unaided l = true ∧ fire c s l = some s' := by
  cases hrg : s.rg with
  | idle =>
    by_cases hidle : ∃ p, p < c.n ∧ (s.ps p).ph = .idle
    · obtain ⟨p, hp, hidle⟩ := hidle
      exact ⟨.rangeStart p, _, rfl, if_pos ⟨hrg, hp, hidle⟩⟩
    · exact ⟨.rangeEnd, _, rfl,
        if_pos ⟨hrg, allBelow_iff.mpr fun p hp => bne_iff_ne.mpr fun h => hidle ⟨p, hp, h⟩⟩⟩
  | inRoot p =>
    obtain ⟨hp, hcur⟩ := hi.inRoot p hrg
    have hnb := not_busy (hq p hp)
    rcases hcur with h | ⟨_, h⟩
    · rw [hnb.2.2] at h; cases h
    · rw [hnb.1] at h; cases h
  | waiting =>
    exact ⟨.waitEnd, _, rfl, if_pos ⟨hrg, allBelow_iff.mpr fun p hp => (Bool.not_eq_true' _).mpr (hq p hp)⟩⟩
  | waited => exact ⟨.close, _, rfl, if_pos hrg⟩
  | closed =>
    cases hc : s.collExited with
    | false => exact ⟨.collectClosed, _, rfl, if_pos ⟨hc, hrg⟩⟩
    | true => exact absurd ⟨hc, hrg⟩ hnt

/-- In every reachable state that is not terminal, either some node's `Process` is still running, or the
protocol can move on by itself — with no cancellation. -/
theorem progress_unaided (hlen : ∀ p, p < c.n → 0 < c.len p) {s : S} (hr : Reach c s) (hnt : ¬ Terminal s) :
    (∃ p, p < c.n ∧ (s.ps p).ph = .calling) ∨ ∃ l s', unaided l = true ∧ fire c s l = some s' := by
  have hi := pinv_reach hlen hr
  by_cases hcall : ∃ p, p < c.n ∧ (s.ps p).ph = .calling
  · exact .inl hcall
  by_cases hb : ∃ p, p < c.n ∧ (s.ps p).busy = true
  · obtain ⟨p, hp, hbp⟩ := hb
    exact .inr (busy_progress hi hp hbp fun h => hcall ⟨p, hp, h⟩)
  · exact .inr (quiet_progress hi (fun p hp => Bool.eq_false_iff.mpr fun h => hb ⟨p, hp, h⟩) hnt)

/-- **Deadlock freedom.** In every reachable state that is not terminal, either some node's
`Process` is still running (user code — the only thing the protocol ever waits for), or a protocol
step other than a node return is enabled. -/
theorem progress (hlen : ∀ p, p < c.n → 0 < c.len p) {s : S} (hr : Reach c s) (hnt : ¬ Terminal s) :
    (∃ p, p < c.n ∧ (s.ps p).ph = .calling) ∨
    ∃ l s', (∀ p, l ≠ .ret p) ∧ fire c s l = some s' :=
  (progress_unaided hlen hr hnt).imp_right fun ⟨l, s', hl, hf⟩ => ⟨l, s', (fun p e => by rw [e] at hl; cases hl), hf⟩

/-- **Prompt return is enabled.** Once the context is done, the collector's way out is enabled
whatever the nodes are doing — `Send` never has to wait for a node after a cancel. -/
theorem prompt (s : S) (hd : s.ctxDone = true) (hc : s.collExited = false) :
    fire c s .collectCtx = some { s with collExited := true } :=
  if_pos ⟨hc, hd⟩

/-- What a pipeline of `L` nodes can still do.  A node still to be called costs 3: its return, the spawn after
it, and the `Done` that spawn leaves owing (`cost_next`; for the node that ends the traversal: its return and
entering the select, then `sending = 2` for leaving it and the last `Done`).  An unstarted pipeline has all `L`
nodes before it, and its start. -/
def psCost (L : Nat) (x : PS) : Nat :=
  x.owing + (if x.rootOwes then 1 else 0) +
  match x.ph with
  | .idle => 3 * L + 2
  | .calling => 3 * (L - x.k) + 1
  | .decided _ => 3 * (L - x.k)
  | .sending => 2
  | .finishing => 1
  | .finished => 0

/-- `idle` and `inRoot` cost the same: entering and leaving a root are paid for by that pipeline (`measure_upd`) -/
def rgCost : Ranger → Nat
  | .idle => 3 | .inRoot _ => 3 | .waiting => 2 | .waited => 1 | .closed => 0

def sumBelow : Nat → (Nat → Nat) → Nat
  | 0, _ => 0
  | n + 1, f => sumBelow n f + f n

theorem sumBelow_congr {n : Nat} {f g : Nat → Nat} (h : ∀ q, q < n → g q = f q) : sumBelow n g = sumBelow n f := by
  induction n with
  | zero => rfl
  | succ n ih =>
    simp only [sumBelow]
    rw [ih fun q hq => h q (Nat.lt_succ_of_lt hq), h n (Nat.lt_succ_self n)]

theorem sumBelow_lt {n : Nat} {f g : Nat → Nat} {p : Nat} (hp : p < n)
    (hother : ∀ q, q < n → q ≠ p → g q = f q) (hlt : g p < f p) : sumBelow n g < sumBelow n f := by
  induction n with
  | zero => exact absurd hp (Nat.not_lt_zero _)
  | succ n ih =>
    unfold sumBelow
    by_cases hpn : p = n
    · subst hpn
      rw [sumBelow_congr fun q hq => hother q (Nat.lt_succ_of_lt hq) (Nat.ne_of_lt hq)]
      exact Nat.add_lt_add_left hlt _
    · rw [hother n (Nat.lt_succ_self n) (fun h => hpn h.symm)]
      exact Nat.add_lt_add_right (ih (Nat.lt_of_le_of_ne (Nat.le_of_lt_succ hp) hpn)
        (fun q hq hne => hother q (Nat.lt_succ_of_lt hq) hne)) _

def measure (c : Cfg) (s : S) : Nat :=
  sumBelow c.n (fun p => psCost (c.len p) (s.ps p)) + rgCost s.rg +
  (if s.collExited then 0 else 1) + (if s.ctxDone then 0 else 1)

/-! Each kind of step lowers one summand of the measure and leaves the others alone. -/

theorem measure_upd {s : S} {p : Nat} {x : PS} {r : Ranger} {i : List (Nat × Nat)} {g : List (Nat × Nat × Bool)}
    (hp : p < c.n) (hr : rgCost r = rgCost s.rg) (hlt : psCost (c.len p) x < psCost (c.len p) (s.ps p)) :
    measure c { s with ps := upd s.ps p x, rg := r, inv := i, got := g } < measure c s := by
  have := sumBelow_lt (f := fun q => psCost (c.len q) (s.ps q)) (g := fun q => psCost (c.len q) (upd s.ps p x q)) hp
    (fun q _ hne => by rw [upd_other _ _ _ _ hne]) (by rw [upd_same]; exact hlt)
  unfold measure; rw [hr]
  exact Nat.add_lt_add_right (Nat.add_lt_add_right (Nat.add_lt_add_right this _) _) _

theorem measure_rg {s : S} {r : Ranger} (hr : rgCost r < rgCost s.rg) : measure c { s with rg := r } < measure c s :=
  Nat.add_lt_add_right (Nat.add_lt_add_right (Nat.add_lt_add_left hr _) _) _

theorem measure_cancel {s : S} (hc : s.ctxDone = false) : measure c { s with ctxDone := true } < measure c s := by
  unfold measure; rw [hc]; exact Nat.lt_succ_self _

theorem measure_collect {s : S} (hc : s.collExited = false) : measure c { s with collExited := true } < measure c s := by
  unfold measure; rw [hc]; exact Nat.add_lt_add_right (Nat.lt_succ_self _) _

section
variable {L : Nat} {x : PS}

/-- for a step that only moves on to the next phase, `hlt` is `Nat.lt_succ_self _` (cf. `live_of_ph`) -/
theorem psCost_of_ph {y : PS} {ph : Phase} (h : x.ph = ph) (hlt : psCost L y < psCost L { x with ph := ph }) :
    psCost L y < psCost L x := by
  subst h; exact hlt

theorem psCost_sendTry {o : Outcome} (h : x.ph = .decided o) (hk : x.k < L) :
    psCost L { x with ph := .sending } < psCost L x := by
  obtain ⟨ph, k, ow, ro⟩ := x; cases h
  show ow + (if ro = true then 1 else 0) + 2 < ow + (if ro = true then 1 else 0) + 3 * (L - k)
  exact Nat.add_lt_add_left (Nat.lt_of_lt_of_le (Nat.lt_succ_self 2) (Nat.mul_le_mul_left 3 (Nat.sub_pos_of_lt hk))) _

/-- calling the next node (`+1`) and the debt the caller is left with (`+1`, in `owing` or as `rootOwes`) are
paid for by being one node further (`-3`) -/
theorem cost_next {L k : Nat} (h : k + 1 < L) : 3 * (L - (k + 1)) + 2 < 3 * (L - k) := by
  rw [← Nat.succ_pred_eq_of_pos (Nat.sub_pos_of_lt (Nat.lt_of_succ_lt h))]
  exact Nat.lt_succ_self _

theorem psCost_next {o : Outcome} {k ow : Nat} {ro : Bool} (h : x.ph = .decided o) (hn : x.k + 1 < L) (hk : k = x.k + 1)
    (hd : ow + (if ro then 1 else 0) = x.owing + (if x.rootOwes then 1 else 0) + 1) :
    psCost L ⟨.calling, k, ow, ro⟩ < psCost L x := by
  obtain ⟨ph, k0, ow0, ro0⟩ := x; cases h; cases hk
  show ow + (if ro = true then 1 else 0) + (3 * (L - (k0 + 1)) + 1) < ow0 + (if ro0 = true then 1 else 0) + 3 * (L - k0)
  rw [hd, Nat.add_assoc _ 1, Nat.add_comm 1]; exact Nat.add_lt_add_left (cost_next hn) _

end

theorem measure_decreases {s s' : S} (hi : PInv c s) (hs : StepI c s s') : measure c s' < measure c s := by
  induction hs with
  | cancel hc => exact measure_cancel hc
  | collectCtx hc _ | collectClosed hc _ => exact measure_collect hc
  | rangeStop _ hr _ _ _ | rangeEnd hr _ | waitEnd hr _ | close hr => exact measure_rg (by rw [hr]; decide)
  | rangeStart p hr hp h | doneCurRoot p hp h _ hr =>
    exact measure_upd hp (congrArg rgCost hr).symm (psCost_of_ph h (Nat.lt_succ_self _))
  | doneRoot p hp h hr =>
    refine measure_upd hp (congrArg rgCost hr).symm ?_
    unfold psCost; rw [h]
    exact Nat.add_lt_add_right (Nat.add_lt_add_left Nat.one_pos _) _
  | ret p hp h | rendezvous p hp h _ | sendAbort p hp h _ | doneCur p hp h _ =>
    exact measure_upd hp rfl (psCost_of_ph h (Nat.lt_succ_self _))
  | sendTry p o hp h _ => exact measure_upd hp rfl (psCost_sendTry h (hi.kbound p hp (by rw [h]; nofun)))
  | spawnRoot p o hp h hst hk =>
    have hro : (s.ps p).rootOwes = false := Bool.eq_false_iff.mpr fun hr => hi.owesK p hr hk
    exact measure_upd hp rfl (psCost_next h (next_of_not_stops hst (hi.kbound p hp (by rw [h]; nofun))) (by rw [hk])
      (by rw [hro]; rfl))
  | spawn p o hp h hst _ =>
    exact measure_upd hp rfl (psCost_next h (next_of_not_stops hst (hi.kbound p hp (by rw [h]; nofun))) rfl
      (Nat.add_right_comm _ _ _))
  | doneOwing p hp h =>
    exact measure_upd hp rfl (Nat.add_lt_add_right (Nat.add_lt_add_right (Nat.sub_lt h Nat.one_pos) _) _)

inductive Run (c : Cfg) : S → Nat → Prop
  | nil (s : S) : Run c s 0
  | cons {s s' : S} {m : Nat} (l : Label) : fire c s l = some s' → Run c s' m → Run c s (m + 1)

/-- **Termination.** Every run from a reachable state is finite: its length is bounded by the
measure (so `Send`'s protocol cannot loop, whatever the schedule and the cancel point). -/
theorem terminates (hlen : ∀ p, p < c.n → 0 < c.len p) {s : S} (hr : Reach c s) {m : Nat} (hrun : Run c s m) :
    m ≤ measure c s := by
  induction hrun with
  | nil s => exact Nat.zero_le _
  | cons l hf _ ih =>
    exact Nat.succ_le_of_lt (Nat.lt_of_le_of_lt (ih (Reach.step l hr hf))
      (measure_decreases (pinv_reach hlen hr) (fire_sound hf)))

/-- **No goroutine left behind.** In a terminal state (collector gone, channel closed) every started
traversal has finished and the WaitGroup counter is zero. -/
theorem clean (hlen : ∀ p, p < c.n → 0 < c.len p) {s : S} (hr : Reach c s) (ht : Terminal s) :
    ∀ p, p < c.n → ((s.ps p).ph = .idle ∨ (s.ps p).ph = .finished) ∧ (s.ps p).wg = 0 := by
  intro p hp
  obtain ⟨h1, h2, h3⟩ := not_busy ((pinv_reach hlen hr).quiet (Or.inr ht.2) p hp)
  have hph := live_eq_false.mp h1
  refine ⟨hph, ?_⟩
  unfold PS.wg
  rcases hph with h | h <;> simp [h, h2, h3]

/-- **No panic**, in four parts; (a) nobody is in (or can enter) the status send once the channel is closed or
about to be. -/
theorem no_send_on_closed (hlen : ∀ p, p < c.n → 0 < c.len p) {s : S} (hr : Reach c s) (p : Nat) (hp : p < c.n)
    (h : (s.ps p).ph = .sending ∨ (∃ o, (s.ps p).ph = .decided o) ∨ (s.ps p).ph = .calling) :
    s.rg ≠ .closed ∧ s.rg ≠ .waited := by
  have hl : (s.ps p).live = true := by
    rcases h with h | ⟨o, h⟩ | h <;> exact live_of_ph h rfl
  exact ((pinv_reach hlen hr).active hp (busy_of_live hl)).symm

/-- (b) the channel is closed at most once: no step leaves `closed`. -/
theorem closed_is_final {s s' : S} (hs : StepI c s s') (h : s.rg = .closed) : s'.rg = .closed := by
  -- the step leaves the ranger alone, or its premise on `s.rg` contradicts `h`
  induction hs <;> first | exact h | simp_all

theorem wg_doneCur {x : PS} (h : x.ph = .finishing) : ({ x with ph := .finished } : PS).wg + 1 = x.wg := by
  unfold PS.wg; rw [h, Nat.add_right_comm _ _ 1, Nat.add_right_comm _ _ 1]

theorem wg_doneOwing {x : PS} (h : x.owing > 0) : ({ x with owing := x.owing - 1 } : PS).wg + 1 = x.wg := by
  unfold PS.wg; rw [Nat.add_right_comm _ _ 1, Nat.add_assoc _ (x.owing - 1), Nat.sub_add_cancel h]

theorem wg_doneRoot {x : PS} (h : x.rootOwes = true) : ({ x with rootOwes := false } : PS).wg + 1 = x.wg := by
  unfold PS.wg; rw [h]; rfl

/-- (c) every `wg.Done` is matched by an earlier `wg.Add`: a done step finds the pipeline's counter positive. -/
theorem done_matches_add {s s' : S} {l : Label} {p : Nat} (hf : fire c s l = some s')
    (hl : l = .doneCur p ∨ l = .doneOwing p ∨ l = .doneRoot p) :
    0 < (s.ps p).wg ∧ (s'.ps p).wg + 1 = (s.ps p).wg := by
  suffices h : (s'.ps p).wg + 1 = (s.ps p).wg from ⟨h ▸ Nat.succ_pos _, h⟩
  rcases hl with rfl | rfl | rfl
  · obtain ⟨hc, ⟨_, _, rfl⟩ | ⟨_, rfl⟩⟩ := fire_doneCur.mp hf <;>
      simp only [upd_same] <;> exact wg_doneCur hc.2
  · obtain ⟨hc, rfl⟩ := Option.ite_some_none_eq_some.mp hf
    simp only [upd_same]; exact wg_doneOwing hc.2
  · obtain ⟨hc, rfl⟩ := Option.ite_some_none_eq_some.mp hf
    simp only [upd_same]; exact wg_doneRoot hc.2.1

/-- (d) `wg.Add` is only called while the counter is positive (spawn) or before `Wait` is entered (root). -/
theorem add_is_safe {s s' : S} {l : Label} {p : Nat} (hf : fire c s l = some s') :
    (l = .spawn p → 0 < (s.ps p).wg) ∧ (l = .rangeStart p → s.rg = .idle) := by
  constructor
  · rintro rfl
    obtain ⟨o, ho, -⟩ := fire_spawn.mp hf
    rw [PS.wg, ho]
    exact Nat.lt_of_lt_of_le Nat.one_pos (Nat.le_trans (Nat.le_add_right 1 _) (Nat.le_add_right _ _))
  · rintro rfl
    exact (Option.ite_some_none_eq_some.mp hf).1.1

/-- Non-vacuity: a concrete run with a cancel between a node's return and its status hand-off
reaches a terminal state. -/
def demoCfg : Cfg := { n := 2, len := fun _ => 2, out := fun p k => if p = 0 ∧ k = 1 then .drop else if k = 1 then .err else .pass, sink := fun _ k => k == 1 }

def fireAll (c : Cfg) : S → List Label → Option S
  | s, [] => some s
  | s, l :: ls => match fire c s l with
    | some s' => fireAll c s' ls
    | none => none

def demoRun : List Label :=
  [.rangeStart 0, .ret 0, .spawn 0, .doneRoot 0, .rangeStart 1, .ret 0, .sendTry 0, .cancel, .sendAbort 0, .collectCtx,
   .ret 1, .spawn 1, .doneRoot 1, .rangeEnd, .ret 1, .sendTry 1, .sendAbort 1, .doneCur 0, .doneCur 1, .waitEnd, .close]

example : ((fireAll demoCfg init demoRun).map (fun s => (s.collExited, decide (s.rg = .closed), s.got))) = some (true, true, []) := by decide +kernel

/-- **The source has the structure the model assumes** (facts regenerated from graph.go on every
run): every status send sits in a `select` next to `<-ctx.Done()` (the one bare send is provably
dead code), the collector has a `ctx.Done()` arm and tests `ok`, `close` follows `wg.Wait()` and
occurs once, `wg.Add(1)` precedes every root call and every spawn, `doProcess` defers `wg.Done()`,
the range call-back tests the context before starting a root, roots run inline and children in
goroutines, the child receives the event `Process` returned, the sink flag comes from `Type()`; the
collector's context arm contains nothing that can block (so `collectCtx` is Send's return), and the
error / dropped-event exits of `doProcess` consist of the guarded report alone. -/
theorem on_source : Evl.Generated.dispatchFacts =
    { sendsGuardedByCtx := true, noLiveBareSend := true, collectorHasCtxArm := true, collectorChecksClosed := true,
      closeAfterWait := true, closeOnce := true, addBeforeRootCall := true, addBeforeSpawn := true,
      doProcessDefersDone := true, rangeChecksCtxBeforeStart := true, childGetsReturnedEvent := true,
      sinkFlagFromType := true, childrenSpawnedWithGo := true, rootCalledInline := true,
      errorEndsTraversalFirst := true, ctxArmReturnsAtOnce := true, errorAlwaysReported := true,
      dropAlwaysReported := true } := by decide

/-- Send holds no lock of the Broker while node code runs — neither in the calling goroutine nor, as
the spawner that waits for them, around the traversal goroutines: a node that calls back into the
Broker (even a registering call) cannot wedge the Send it runs in. -/
theorem send_holds_no_lock :
    ((Evl.Generated.brokerCallbacks.filter (fun c => c.kind == 0)).all (fun c => c.brokerLock == 0 && c.otherLocks == 0)) = true ∧
    (Evl.Generated.brokerCallbacks.any (fun c => c.kind == 0)) = true ∧ Evl.Generated.lockLeaks = 0 ∧
    -- ... nor a lock of the pipeline map: it is a sync.Map, whose Range holds nothing while the call-back
    -- (the root node's Process) runs
    Evl.Generated.graphMapPlain = true := by decide

end Evl.C03
