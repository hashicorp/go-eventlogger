import Evl.Model.Encrypt
import Evl.Lemmas.Encrypt
import Evl.Generated.EncryptFacts
/-!
# C16 — encrypted and HMAC-ed values are correct under the key in force, across rotation

Model: M7's key material (`Keys`, `EventKeys`, `rotate`, `keyFor` / `saltFor` / `infoFor`).  That an
`enc key m` leaf decrypts to `m` and a `mac key salt info m` leaf equals HMAC-SHA256 of `m` under
HKDF(key, salt, info) is what the harness establishes for every produced value with independent
code (go-kms-wrapping's AEAD Decrypt with the candidate key, x/crypto/hkdf + crypto/hmac): a leaf is
only canonicalised to `E<key>…` / `M<key>…` if that succeeds.  The atomicity of one value under
concurrent rotation: `atomic_on_source` (regenerated: Rotate and the rotation-payload branch of Process
replace wrapper, salt and info inside ONE exclusive section of Filter.l and call no method of the
filter inside it; encrypt / hmacSha256 read the material inside one section) makes every rotation and
every protection of one value an atomic step, which is what `under_material_in_force` starts from.
Assumed: AEAD decrypt ∘ encrypt = id, HKDF and HMAC themselves.
-/
namespace Evl.C16
open Evl.Encrypt

/-- every encrypted value uses the per-event wrapper derived from the filter's wrapper and the event
id when the payload carries event wrapper info, the filter's wrapper otherwise; every HMAC uses the
same key with the per-event salt / info when non-nil, else the filter's -/
theorem key_in_force (k : Keys) (ek : Option EventKeys) (ov : Overrides) (f : Field) (m : Nat) (o : FOut)
    (hex : f.exported = true) (hk : f.kind = .str m) (h : filterOne k ek ov f = some o) :
    (action (fromTag f.tag ov) = .encrypt → ∃ key, keyFor k ek = some key ∧ o = .one (.enc key m)) ∧
    (action (fromTag f.tag ov) = .hmac → ∃ key, keyFor k ek = some key ∧ o = .one (.mac key (saltFor k ek) (infoFor k ek) m)) := by
  rw [filterOne_scalar hex (.inl hk)] at h
  obtain ⟨l, hl, rfl⟩ := Option.map_eq_some_iff.mp h
  constructor <;>
  · intro ha
    rw [ha] at hl
    obtain ⟨key, hkey, rfl⟩ := Option.map_eq_some_iff.mp hl
    exact ⟨key, hkey, rfl⟩

theorem per_event_precedence (k : Keys) (e : EventKeys) :
    (∀ w id, e.derivedFrom = some (w, id) → keyFor k (some e) = some (w, some id)) ∧
    (∀ s, e.salt = some s → saltFor k (some e) = some s) ∧ (e.salt = none → saltFor k (some e) = k.salt) ∧
    (∀ i, e.info = some i → infoFor k (some e) = some i) ∧ (e.info = none → infoFor k (some e) = k.info) ∧
    keyFor k none = k.wrapper.map (·, none) ∧ saltFor k none = k.salt ∧ infoFor k none = k.info := by
  refine ⟨?_, ?_, ?_, ?_, ?_, rfl, rfl, rfl⟩
  · intro w id h; simp [keyFor, h]
  · intro s h; simp [saltFor, h]
  · intro h; simp [saltFor, h]
  · intro i h; simp [infoFor, h]
  · intro h; simp [infoFor, h]

/-- Rotate / a rotation payload: every supplied component is the one used afterwards, every absent
one keeps its previous value; this holds after any sequence of rotations -/
theorem rotation (k : Keys) (w s i : Option Nat) :
    ((rotate k w s i).wrapper = match w with | some x => some x | none => k.wrapper) ∧
    ((rotate k w s i).salt = match s with | some x => some x | none => k.salt) ∧
    ((rotate k w s i).info = match i with | some x => some x | none => k.info) := ⟨rfl, rfl, rfl⟩

def rotateAll (k : Keys) (rs : List (Option Nat × Option Nat × Option Nat)) : Keys :=
  rs.foldl (fun k r => rotate k r.1 r.2.1 r.2.2) k

/-- the wrapper in force after a history of rotations is the last one supplied -/
theorem last_wrapper_wins (k : Keys) (rs : List (Option Nat × Option Nat × Option Nat)) (w : Nat) (s i : Option Nat) :
    (rotateAll k (rs ++ [(some w, s, i)])).wrapper = some w := by
  rw [rotateAll, List.foldl_append]
  rfl

/-- equal inputs under equal keys give equal results (the model is a function) -/
theorem deterministic (k : Keys) (ek : Option EventKeys) (ov : Overrides) (f g : Field)
    (h : f = g) : filterOne k ek ov f = filterOne k ek ov g := by rw [h]

example : (rotateAll ⟨some 1, some 1, none⟩ [(none, some 2, none), (some 3, none, none)]) = ⟨some 3, some 2, none⟩ := by decide

/-- the atomic steps on the filter's key material: a rotation (Rotate or a rotation payload), and the
protection of one value, which reads the material.  `protect` reads wrapper, salt and info in one step, as `encrypt` /
`hmacSha256` read the filter's own; the base of a per-event wrapper (`EventKeys.derivedFrom`) is read earlier, by
`Process` in a section of its own, and is an input here, not one of the three. -/
inductive KOp
  | rot (w s i : Option Nat)
  | protect
  deriving DecidableEq, Repr, Inhabited

/-- the key material each protection saw, in any serialisation of the atomic steps -/
def seen : Keys → List KOp → List Keys
  | _, [] => []
  | k, .rot w s i :: rest => seen (rotate k w s i) rest
  | k, .protect :: rest => k :: seen k rest

/-- the key material in force at some moment: after each prefix of the steps -/
def inForce : Keys → List KOp → List Keys
  | k, [] => [k]
  | k, .rot w s i :: rest => k :: inForce (rotate k w s i) rest
  | k, .protect :: rest => inForce k rest

theorem inForce_head (k : Keys) (ops : List KOp) : k ∈ inForce k ops := by
  induction ops generalizing k with
  | nil => exact List.mem_cons_self
  | cons op rest ih =>
    cases op with
    | rot w s i => exact List.mem_cons_self
    | protect => exact ih k

/-- **Wholly old or wholly new.**  Whatever the interleaving of rotations and protections (given that
each is one atomic step, `atomic_on_source`), every value is protected under the complete key
material left by some prefix of the rotations: never a wrapper of one rotation with the salt or
info of another. -/
theorem under_material_in_force (k : Keys) (ops : List KOp) : ∀ x ∈ seen k ops, x ∈ inForce k ops := by
  induction ops generalizing k with
  | nil => intro x hx; cases hx
  | cons op rest ih =>
    cases op with
    | rot w s i => exact fun x hx => List.mem_cons_of_mem _ (ih _ x hx)
    | protect =>
      intro x hx
      rcases List.mem_cons.mp hx with rfl | hx
      · exact inForce_head _ rest
      · exact ih _ x hx

theorem inForce_protects (k : Keys) (tl : List KOp) (n : Nat) : inForce k (List.replicate n .protect ++ tl) = inForce k tl := by
  induction n with
  | zero => rfl
  | succ n ih => exact ih

/-- with one rotation in flight a value is under the old or the new material -/
theorem old_or_new (k : Keys) (w s i : Option Nat) (a b : Nat) :
    ∀ x ∈ seen k (List.replicate a .protect ++ [.rot w s i] ++ List.replicate b .protect), x = k ∨ x = rotate k w s i := by
  intro x hx
  have h := under_material_in_force k _ x hx
  rw [List.append_assoc, inForce_protects, ← List.append_nil (List.replicate b _)] at h
  simpa only [List.cons_append, List.nil_append, inForce, inForce_protects, List.mem_cons, List.not_mem_nil, or_false] using h

/-- the premise on the current source (regenerated on every run) -/
theorem atomic_on_source : Evl.Generated.encryptFacts =
    { rotateOneSection := true, rotationPayloadOneSection := true, rotationPayloadConsumed := true,
      encryptOneSection := true, hmacSha256OneSection := true } := by decide

example : seen ⟨some 1, some 1, some 1⟩ [.protect, .rot (some 2) (some 2) (some 2), .protect] =
    [⟨some 1, some 1, some 1⟩, ⟨some 2, some 2, some 2⟩] := by decide

end Evl.C16
