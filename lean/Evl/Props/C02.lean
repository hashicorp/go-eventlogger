import Evl.Lemmas.DispatchGhost
import Evl.Lemmas.RegistryStep
import Evl.Generated.Decisions
import Evl.Generated.DispatchFacts
/-!
# C02 — Send's Status and error truthfully account for what the pipelines did

Models: M2 `Dispatch` for the collected statuses under every schedule and cancel point (`got` is the
ghost list of statuses the collector merged: pipeline, node index, warning?), M1 `Registry` for the
thresholds, and `getError` below for the decision `Status.getError` takes (its comparison operators
and operands are tied to the source by the correspondence runs over all threshold values 0..n+1).
-/
namespace Evl.C02
open Evl.Dispatch

variable {c : Cfg}

/-- **Never invented (all schedules, all cancel points).** Every collected status stands for a
distinct pipeline whose traversal really ended at that node: the node stopped the traversal (it
dropped the event, returned an error, or is the leaf); it is a warning exactly when the node returned
an error, otherwise a complete entry for a node that returned success. -/
theorem sound (hlen : ∀ p, p < c.n → 0 < c.len p) {s : S} (hr : Reach c s) :
    (∀ e ∈ s.got, e.1 < c.n ∧ ended (s.ps e.1) ∧ e.2.1 = (s.ps e.1).k ∧
        stops c e.1 e.2.1 (c.out e.1 e.2.1) = true ∧ (e.2.2 = true ↔ c.out e.1 e.2.1 = .err) ∧
        (e.2.2 = false → (c.out e.1 e.2.1 = .drop ∨ e.2.1 + 1 = c.len e.1))) ∧
    (s.got.map (·.1)).Nodup := by
  have hi := pinv_reach hlen hr
  have hg := ginv_reach hlen hr
  refine ⟨fun e he => ?_, hg.gotNodup⟩
  obtain ⟨h1, h2, h3, h4⟩ := hg.gotOk e he
  have hst : stops c e.1 e.2.1 (c.out e.1 e.2.1) = true := h3 ▸ hi.stopsAt e.1 (Or.inr h2)
  refine ⟨h1, h2, h3, hst, h4 ▸ beq_iff_eq, fun hw => (stops_iff.mp hst).resolve_left fun h => ?_⟩
  rw [h4, h] at hw; cases hw

def completes (s : S) : List (Nat × Nat) := (s.got.filter (fun e => !e.2.2)).map (fun e => (e.1, e.2.1))
def completeSinks (c : Cfg) (s : S) : List (Nat × Nat) := (completes s).filter (fun e => c.sink e.1 e.2)
/-- complete-sinks is by construction the sub-list of complete entries whose node is a sink -/
theorem sinks_sublist (s : S) : (completeSinks c s).Sublist (completes s) := List.filter_sublist

/-- **Exactly one entry per pipeline when not cancelled.** If the context is never cancelled, when
Send returns there is exactly one status per registered pipeline (completes + warnings = pipelines). -/
theorem complete (hlen : ∀ p, p < c.n → 0 < c.len p) {s : S} (hr : Reach c s)
    (hnc : s.ctxDone = false) (hret : s.collExited = true) :
    (∀ p, p < c.n → p ∈ s.got.map (·.1)) ∧ s.got.length = c.n := by
  have hi := pinv_reach hlen hr
  have hg := ginv_reach hlen hr
  have hall : ∀ p, p < c.n → p ∈ s.got.map (·.1) :=
    fun p hp => hg.gotAll hnc p (Or.inr (finished_of_returned hi hg hnc hret hp))
  refine ⟨hall, ?_⟩
  -- a duplicate-free list of numbers below n containing every number below n has length n
  have hperm : (s.got.map (·.1)).Perm (List.range c.n) := by
    apply (List.perm_ext_iff_of_nodup hg.gotNodup List.nodup_range).mpr
    intro a
    rw [List.mem_range]
    refine ⟨fun ha => ?_, hall a⟩
    obtain ⟨e, he, rfl⟩ := List.mem_map.mp ha
    exact (hg.gotOk e he).1
  simpa using hperm.length_eq

/-- `Status.getError`: which error (if any) Send returns, and whether it wraps the context's error. -/
inductive SendErr | notEnoughNodes | notEnoughSinks
  deriving DecidableEq, Repr

def getError (ctxDone : Bool) (nComplete nSinks thr thrSinks : Nat) : Option (SendErr × Bool) :=
  if nComplete < thr then some (.notEnoughNodes, ctxDone)
  else if nSinks < thrSinks then some (.notEnoughSinks, ctxDone)
  else none

/-- Send returns an error iff fewer completes than the success threshold, or fewer complete sinks
than the sink threshold, were reported; the error wraps the context's error iff the context was done. -/
theorem error_iff (ctxDone : Bool) (nC nS thr thrS : Nat) :
    ((getError ctxDone nC nS thr thrS).isSome = true ↔ (nC < thr ∨ nS < thrS)) ∧
    (∀ e w, getError ctxDone nC nS thr thrS = some (e, w) → w = ctxDone) := by
  unfold getError
  by_cases h1 : nC < thr
  · rw [if_pos h1]; exact ⟨⟨fun _ => .inl h1, fun _ => rfl⟩, fun e w h => by cases h; rfl⟩
  · rw [if_neg h1]
    by_cases h2 : nS < thrS
    · rw [if_pos h2]; exact ⟨⟨fun _ => .inr h2, fun _ => rfl⟩, fun e w h => by cases h; rfl⟩
    · rw [if_neg h2]; exact ⟨⟨nofun, fun h => (h.elim h1 h2).elim⟩, nofun⟩

/-- `getError` above is the source's `Status.getError`: its switch cases, regenerated from broker.go,
are `len(complete) < threshold` then `len(completeSinks) < thresholdSinks`, in this order; and the
complete-sinks flag is set from the node's `Type()`. -/
theorem getError_on_source :
    Evl.Generated.getErrorCases =
      [{ l := .lenComplete, op := .lt, r := .threshold }, { l := .lenCompleteSinks, op := .lt, r := .thresholdSinks }] ∧
    Evl.Generated.dispatchFacts.sinkFlagFromType = true ∧
    -- a node's error / a dropped event is always offered to the collector (the model's `sendTry`):
    -- the only way not to report is Send's own context being done
    Evl.Generated.dispatchFacts.errorAlwaysReported = true ∧
    Evl.Generated.dispatchFacts.dropAlwaysReported = true ∧
    Evl.Generated.dispatchFacts.sendsGuardedByCtx = true := by decide

open Evl.Registry

/-- `SetSuccessThreshold` / `SetSuccessThresholdSinks` reject a negative value and change nothing -/
theorem threshold_negative (b : Broker) (ty : Nat) (n : Int) (hn : n < 0) :
    (step b (.setThr ty n)).1 = b ∧ (∃ e, (step b (.setThr ty n)).2 = .err e) ∧
    (step b (.setThrSinks ty n)).1 = b ∧ (∃ e, (step b (.setThrSinks ty n)).2 = .err e) := by
  obtain ⟨e1, h1⟩ : ∃ e, step b (.setThr ty n) = (b, .err e) := setter_neg b ty hn _
  obtain ⟨e2, h2⟩ : ∃ e, step b (.setThrSinks ty n) = (b, .err e) := setter_neg b ty hn _
  rw [h1, h2]
  exact ⟨rfl, ⟨e1, rfl⟩, rfl, ⟨e2, rfl⟩⟩

/-- a threshold reads back as last set, for that type; every other type is untouched -/
theorem threshold_readback (b : Broker) (ty : Nat) (n : Int) (hty : ty ≠ 0) (hn : 0 ≤ n) :
    (step (step b (.setThr ty n)).1 (.getThr ty)).2 = .thr n.toNat true ∧
    (∀ t, t ≠ ty → (step (step b (.setThr ty n)).1 (.getThr t)).2 = (step b (.getThr t)).2 ∧
                   (step (step b (.setThr ty n)).1 (.getThrSinks t)).2 = (step b (.getThrSinks t)).2) := by
  have hl := lookupGraph_edit b.graphs ty (fun g => { g with thr := n.toNat }) (fun _ => rfl)
  have hs : step b (.setThr ty n) = _ := setter_ok hty hn _
  simp only [hs, step_getThr, step_getThrSinks, hl, if_true]
  exact ⟨trivial, fun t ht => by simp only [if_neg ht, and_self]⟩

theorem thresholdSinks_readback (b : Broker) (ty : Nat) (n : Int) (hty : ty ≠ 0) (hn : 0 ≤ n) :
    (step (step b (.setThrSinks ty n)).1 (.getThrSinks ty)).2 = .thr n.toNat true ∧
    (∀ t, t ≠ ty → (step (step b (.setThrSinks ty n)).1 (.getThr t)).2 = (step b (.getThr t)).2 ∧
                   (step (step b (.setThrSinks ty n)).1 (.getThrSinks t)).2 = (step b (.getThrSinks t)).2) := by
  have hl := lookupGraph_edit b.graphs ty (fun g => { g with thrSinks := n.toNat }) (fun _ => rfl)
  have hs : step b (.setThrSinks ty n) = _ := setter_ok hty hn _
  simp only [hs, step_getThr, step_getThrSinks, hl, if_true]
  exact ⟨trivial, fun t ht => by simp only [if_neg ht, and_self]⟩

example : getError true 1 0 1 1 = some (.notEnoughSinks, true) := by decide
example : (step (step Registry.init (.setThr 2 3)).1 (.getThr 2)).2 = .thr 3 true := by decide
example : (step Registry.init (.setThr 2 (-1))).2 = .err .negative := by decide

end Evl.C02
