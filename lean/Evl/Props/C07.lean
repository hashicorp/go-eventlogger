import Evl.Lemmas.RegistryInv
import Evl.Generated.RegistryFacts
/-!
# C07 — overwrite policy: DenyOverwrite is sticky, AllowOverwrite swaps

Model: M1 `Registry`.  The history clauses (`deny_node_sticky`, `deny_pipe_sticky`) are proved for one
arbitrary operation from an arbitrary state satisfying the registry invariant `Evl.Registry.Inv`, which
every reachable state does (`Evl.Registry.inv_run`); the induction over a history is not stated as a
theorem of its own.  The clause "each Send is processed by exactly one version of an
overwritten pipeline, the new one once the call returned" is about schedules; its logical content
is `one_version` and `one_version_on_source`; the schedule part is exercised by the marker-node race
harness.
-/
namespace Evl.C07
open Evl.Registry

/-- A node id registered with DenyOverwrite refuses every later registration; nothing changes. -/
theorem deny_node_refuses (b : Broker) (id ty : Nat) (beh : Beh) (cf : Bool) (pol : Pol) (e : NodeEntry)
    (hl : lookupNode b.nodes id = some e) (hd : e.deny = true) :
    (step b (.regNode id ty beh cf pol)).1 = b ∧ ∃ err, (step b (.regNode id ty beh cf pol)).2 = .err err := by
  have hs := step_spec b (.regNode id ty beh cf pol)
  generalize step b (.regNode id ty beh cf pol) = s at hs ⊢
  cases hs with
  | refused _ err => exact ⟨rfl, err, rfl⟩
  | passive _ _ _ hop => cases hop
  | regNode _ _ _ _ _ _ _ hdeny => rw [hdeny e hl] at hd; cases hd

/-- What one operation can do to a registered entry, whatever its policy; DenyOverwrite rules out the
last disjunct (`deny_node_sticky`). -/
theorem node_frame (b : Broker) (hi : Inv b) (op : Op) (id : Nat) (e : NodeEntry) (hm : (id, e) ∈ b.nodes) :
    (∃ r, (id, { e with refs := r }) ∈ (step b op).1.nodes) ∨ e.inst ∈ closedOf (step b op).2 ∨
    (e.deny = false ∧ ∃ ty beh cf pol, op = .regNode id ty beh cf pol ∧ (step b op).2 = .ok) := by
  have hl : lookupNode b.nodes id = some e := Keyed.assoc_of_mem hi.nkeys hm
  have relOld : ∀ o : Option Pipe, ∃ r, (id, { e with refs := r }) ∈ releaseOld b.nodes o := by
    intro o
    cases o with
    | none => exact ⟨_, hm⟩
    | some o => exact ⟨_, mem_release.mpr ⟨e, hm, rfl⟩⟩
  have hs := step_spec b op
  generalize step b op = s at hs ⊢
  induction hs with
  | refused | refusedLate | passive => exact Or.inl ⟨_, hm⟩
  | regNode id2 ty beh cf pol _ _ hdeny =>
    by_cases hii : id = id2
    · subst hii
      exact Or.inr (Or.inr ⟨hdeny e hl, ty, beh, cf, pol, rfl, rfl⟩)
    · exact Or.inl ⟨_, mem_putNode.mpr (Or.inl ⟨hm, hii⟩)⟩
  | removeNode id2 e2 hl2 _ =>
    by_cases hii : id = id2
    · subst hii
      rw [hl] at hl2
      cases hl2
      exact Or.inr (Or.inl (List.mem_singleton.mpr rfl))
    · exact Or.inl ⟨_, mem_eraseNode.mpr ⟨hm, hii⟩⟩
  | regPipe ty pid ids pol bound =>
    obtain ⟨r, h1⟩ := relOld (lookupPipe b.pipes ty pid)
    exact Or.inl ⟨_, mem_acquire.mpr ⟨_, h1, rfl⟩⟩
  | removePipe ty pid => exact Or.inl (relOld _)
  | rpan ty pid o ho =>
    by_cases hg : id ∈ o.ids ∧ e.refs ≤ 1
    · exact Or.inr (Or.inl (List.mem_map.mpr ⟨(id, e), mem_detach_gone.mpr ⟨hm, hg⟩, rfl⟩))
    · exact Or.inl ⟨_, mem_detach_kept.mpr ⟨e, hm, hg, rfl⟩⟩

/-- The Deny-registered instance stays registered (same instance, still Deny) across *any*
operation, until an operation closes that very instance (RemoveNode / RemovePipelineAndNodes). -/
theorem deny_node_sticky (b : Broker) (hi : Inv b) (op : Op) (id : Nat) (e : NodeEntry)
    (hm : (id, e) ∈ b.nodes) (hd : e.deny = true) :
    (∃ e', (id, e') ∈ (step b op).1.nodes ∧ e'.inst = e.inst ∧ e'.deny = true) ∨
    e.inst ∈ closedOf (step b op).2 := by
  rcases node_frame b hi op id e hm with ⟨r, h⟩ | h | ⟨hf, _⟩
  · exact Or.inl ⟨_, h, rfl, hd⟩
  · exact Or.inr h
  · rw [hf] at hd; cases hd

/-- A pipeline registered with DenyOverwrite refuses every later registration under its key. -/
theorem deny_pipe_refuses (b : Broker) (ty pid : Nat) (ids : List Nat) (pol : Pol) (o : Pipe)
    (hl : lookupPipe b.pipes ty pid = some o) (hd : o.deny = true) :
    (step b (.regPipe ty pid ids pol)).1.pipes = b.pipes ∧ (step b (.regPipe ty pid ids pol)).1.nodes = b.nodes ∧
    ∃ err, (step b (.regPipe ty pid ids pol)).2 = .err err := by
  have hs := step_spec b (.regPipe ty pid ids pol)
  generalize step b (.regPipe ty pid ids pol) = s at hs ⊢
  cases hs with
  | refused | refusedLate => exact ⟨rfl, rfl, _, rfl⟩
  | passive _ _ _ hop => cases hop
  | regPipe _ _ _ _ _ _ _ hdeny => rw [hdeny o hl] at hd; cases hd

/-- What one operation can do to a registered pipeline, whatever its policy; DenyOverwrite rules out the
last disjunct (`deny_pipe_sticky`). -/
theorem pipe_frame (b : Broker) (hi : Inv b) (op : Op) (p : Pipe) (hm : p ∈ b.pipes) :
    p ∈ (step b op).1.pipes ∨ op = .removePipe p.ty p.pid ∨ op = .rpan p.ty p.pid ∨
    (p.deny = false ∧ ∃ ids pol, op = .regPipe p.ty p.pid ids pol ∧ (step b op).2 = .ok) := by
  -- the three operations on pipelines all erase a key: `p` goes only if it is its own
  have hk : ∀ ty pid, p ∈ erasePipe b.pipes ty pid ∨ (ty = p.ty ∧ pid = p.pid) := fun ty pid =>
    if h : ty = p.ty ∧ pid = p.pid then Or.inr h
    else Or.inl (mem_erasePipe.mpr ⟨hm, fun e => h ⟨(congrArg Prod.fst e).symm, (congrArg Prod.snd e).symm⟩⟩)
  have hs := step_spec b op
  generalize step b op = s at hs ⊢
  induction hs with
  | refused | refusedLate | passive | regNode | removeNode => exact Or.inl hm
  | regPipe ty pid ids pol bound _ _ hdeny =>
    rcases hk ty pid with h | ⟨rfl, rfl⟩
    · exact Or.inl (List.mem_append_left _ h)
    · exact Or.inr (Or.inr (Or.inr ⟨hdeny p (lookupPipe_of_mem hi.pkeys hm), ids, pol, rfl, rfl⟩))
  | removePipe ty pid =>
    rcases hk ty pid with h | ⟨rfl, rfl⟩
    · exact Or.inl h
    · exact Or.inr (Or.inl rfl)
  | rpan ty pid =>
    rcases hk ty pid with h | ⟨rfl, rfl⟩
    · exact Or.inl h
    · exact Or.inr (Or.inr (Or.inl rfl))

/-- The Deny-registered pipeline stays registered, untouched, across any operation other than an
explicit removal of its own key. -/
theorem deny_pipe_sticky (b : Broker) (hi : Inv b) (op : Op) (p : Pipe) (hm : p ∈ b.pipes) (hd : p.deny = true) :
    p ∈ (step b op).1.pipes ∨ op = .removePipe p.ty p.pid ∨ op = .rpan p.ty p.pid :=
  (pipe_frame b hi op p hm).imp_right (.imp_right (·.resolve_right fun h => Bool.noConfusion (h.1.symm.trans hd)))

/-- Under AllowOverwrite (the default) a node id can be re-registered, and the policy given then is
the one recorded; the reference count is carried over to the new instance. -/
theorem allow_node_overwrite (b : Broker) (hi : Inv b) (id ty : Nat) (beh : Beh) (cf : Bool) (pol : Pol) (e : NodeEntry)
    (hid : id ≠ 0) (hp : polValid pol = true)
    (hl : lookupNode b.nodes id = some e) (hd : e.deny = false) :
    (step b (.regNode id ty beh cf pol)).2 = .ok ∧
    lookupNode (step b (.regNode id ty beh cf pol)).1.nodes id =
      some { inst := b.nextInst, ty := ty, beh := beh, closeFails := cf, refs := e.refs, deny := polDeny pol } := by
  have hdeny : ∀ old, lookupNode b.nodes id = some old → old.deny = false :=
    fun old h => Option.some.inj (hl.symm.trans h) ▸ hd
  rw [(Step.regNode id ty beh cf pol hid hp hdeny).is_step, hl]
  exact ⟨rfl, (Keyed.assoc_put b.nodes id _ id).trans (if_pos rfl)⟩

/-- Under AllowOverwrite a pipeline can be re-registered (when the new definition is itself
acceptable) and the policy given then is the one recorded from there on. -/
theorem allow_pipe_overwrite (b : Broker) (ty pid : Nat) (ids : List Nat) (pol : Pol)
    (h : (step b (.regPipe ty pid ids pol)).2 = .ok) :
    ∃ p, lookupPipe (step b (.regPipe ty pid ids pol)).1.pipes ty pid = some p ∧
      p.deny = polDeny pol ∧ p.ids = ids := by
  have hs := step_spec b (.regPipe ty pid ids pol)
  generalize step b (.regPipe ty pid ids pol) = s at hs h ⊢
  cases hs with
  | refused | refusedLate => cases h
  | passive _ _ _ hop => cases hop
  | regPipe _ _ _ _ bound _ _ _ hres =>
    exact ⟨{ ty := ty, pid := pid, nodes := bound, deny := polDeny pol },
      Keyed.find?_filter_not_append _ b.pipes ((key_eq_iff _ ty pid).mpr rfl), rfl, resolve_ids hres⟩

/-- Invalid policy values are rejected without any change. -/
theorem invalid_policy_rejected (b : Broker) :
    (∀ id ty beh cf, step b (.regNode id ty beh cf .invalid) = (b, .err .emptyId) ∨
                     step b (.regNode id ty beh cf .invalid) = (b, .err .badPolicy)) ∧
    (∀ ty pid ids, step b (.regPipe ty pid ids .invalid) = (b, .err .invalid) ∨
                   step b (.regPipe ty pid ids .invalid) = (b, .err .badPolicy)) := by
  constructor
  · intro id ty beh cf
    by_cases h : (id == 0) = true
    · exact Or.inl (if_pos h)
    · exact Or.inr ((if_neg h).trans (if_pos rfl))
  · intro ty pid ids
    by_cases h : (pid == 0 || ty == 0 || ids.isEmpty || ids.contains 0) = true
    · exact Or.inl (if_pos h)
    · exact Or.inr ((if_neg h).trans (if_pos rfl))

/-- Re-registering a node id affects only pipelines registered afterwards: existing pipelines keep
the instances they were linked to. -/
theorem node_rebinding (b : Broker) (id ty : Nat) (beh : Beh) (cf : Bool) (pol : Pol) :
    (step b (.regNode id ty beh cf pol)).1.pipes = b.pipes := by
  have hs := step_spec b (.regNode id ty beh cf pol)
  generalize step b (.regNode id ty beh cf pol) = s at hs ⊢
  cases hs with
  | refused | passive | regNode => rfl

/-- In every reachable state a pipeline key has exactly one version: a traversal of the type's
pipelines meets the old one or the new one, never both. -/
theorem one_version (ops : List Op) : ((run init ops).pipes.map key).Nodup :=
  (inv_run ops inv_init).pkeys

/-- ... on the source: an overwrite is one `Store` on a pipeline map that is exactly a `sync.Map` (one
field; `Range` / `Store` / `Delete` are one call on it each — nothing cached between a registration
and the Sends that follow it), never Delete-then-Store -/
theorem one_version_on_source :
    Evl.Generated.regPipeStores = 1 ∧ Evl.Generated.regPipeDeletes = 0 ∧ Evl.Generated.graphMapPlain = true := by decide

/-- **Option lists.** A call may carry several options: if any of them gives an invalid policy value
the call as a whole is invalid (and, by `invalid_policy_rejected`, refused with nothing changed) —
wherever in the list it stands and whatever follows it.  An operation of the model carries one `Pol`: a call
with the options `os` is the operation with `effPol os` for it, which is how the driver reads a call
(`Driver/Registry.lean`, `parsePol`). -/
theorem invalid_option_anywhere (os : List PolOpt) (h : ∃ o ∈ os, o.pol = .invalid) : effPol os = .invalid :=
  (effPol_invalid_iff os).mpr h

/-- … and a list with no invalid value is valid: it asks for the default or for what its last
own-kind option says -/
theorem valid_options (os : List PolOpt) (h : ∀ o ∈ os, o.pol ≠ .invalid) : effPol os ≠ .invalid :=
  fun heq =>
    let ⟨o, ho, hinv⟩ := (effPol_invalid_iff os).mp heq
    h o ho hinv

def demo : List Op :=
  [ .regNode 1 1 .pass false .deny, .regNode 2 2 .pass false .dflt, .regNode 3 3 .drop false .allow,
    .regPipe 1 1 [1, 2, 3] .deny ]
example : (step (run init demo) (.regNode 1 1 .drop false .allow)).2 = .err .deny := by decide +kernel
example : (step (run init demo) (.regNode 3 3 .pass false .deny)).2 = .ok := by decide +kernel
example : (step (run init demo) (.regPipe 1 1 [2, 3] .allow)).2 = .err .deny := by decide +kernel
example : (step (run init demo) (.regPipe 2 1 [2, 3] .allow)).2 = .ok := by decide +kernel
example : (step (run init (demo ++ [.removePipe 1 1])) (.regPipe 1 1 [2, 3] .allow)).2 = .ok := by decide +kernel

example : effPol [⟨true, .invalid⟩, ⟨true, .deny⟩] = .invalid := by decide
example : effPol [⟨true, .allow⟩, ⟨false, .invalid⟩] = .invalid := by decide
example : effPol [⟨true, .deny⟩, ⟨false, .allow⟩, ⟨true, .dflt⟩] = .deny := by decide
example : effPol [⟨true, .deny⟩, ⟨true, .allow⟩] = .allow := by decide

end Evl.C07
