import Evl.Model.FileSink
import Evl.Model.Sinks
import Evl.Lemmas.Keyed
import Evl.Generated.LockSites
import Evl.Generated.SinkFacts
/-!
# C13 — sinks deliver exactly the bytes of their configured format, or report an error

Model: M9 `Sinks` (M5 `FileSink` for the regular-file path, `filesink_refuses_unformatted`).
Contiguity under concurrent Process calls is the regenerated fact that the single `WriteTo` of
writer.Sink and FileSink happens while the sink's own mutex is held exclusively (`write_under_lock`,
see also C19).  Labelled partial for wall-clock latency of ChannelSink (the harness records it;
`channel_exactly_one` states which outcomes are possible for which readiness).
-/
namespace Evl.C13
open Evl.Sinks

theorem writerProcess_none {cfg : Nat} {t : Table} (w : WBeh) (h : format t (effFormat cfg) = none) :
    writerProcess false false cfg t w = .errNotMarshaled := by
  simp only [writerProcess, h, Bool.false_eq_true, if_false]

theorem writerProcess_some {cfg : Nat} {t : Table} {v : Bytes} (w : WBeh) (h : format t (effFormat cfg) = some v) :
    writerProcess false false cfg t w =
      if v.isEmpty then .wrote [] else
      match w with
      | .ok => .wrote v
      | .fail => .errWrite
      | .short n => if n < v.length then .errWrite else .wrote v := by
  simp only [writerProcess, h, Bool.false_eq_true, if_false]
  cases w <;> rfl

/-- writer.Sink reports success only after handing the writer exactly the bytes stored for its
configured format (JSON when unset) -/
theorem writer_success (wn en : Bool) (cfg : Nat) (t : Table) (w : WBeh) (b : Bytes)
    (h : writerProcess wn en cfg t w = .wrote b) :
    wn = false ∧ en = false ∧ format t (effFormat cfg) = some b ∧
    (b = [] ∨ w = .ok ∨ ∃ n, w = .short n ∧ b.length ≤ n) := by
  cases wn
  · cases en
    · cases hf : format t (effFormat cfg) with
      | none => rw [writerProcess_none w hf] at h; exact nomatch h
      | some v =>
        rw [writerProcess_some w hf] at h
        refine ⟨rfl, rfl, ?_⟩
        by_cases hv : v.isEmpty = true
        · obtain rfl := SinkRes.wrote.inj ((if_pos hv).symm.trans h)
          exact ⟨congrArg some (List.isEmpty_iff.mp hv), Or.inl rfl⟩
        · rw [if_neg hv] at h
          cases w with
          | ok => exact ⟨congrArg some (SinkRes.wrote.inj h), Or.inr (Or.inl rfl)⟩
          | fail => exact nomatch h
          | short n =>
            by_cases hn : n < v.length
            · exact nomatch (if_pos hn).symm.trans h
            · obtain rfl := SinkRes.wrote.inj ((if_neg hn).symm.trans h)
              exact ⟨rfl, Or.inr (Or.inr ⟨n, rfl, Nat.le_of_not_lt hn⟩)⟩
    · exact nomatch h
  · exact nomatch h

/-- ... and reports an error when the event carries no bytes for that format, the writer is missing,
or the underlying write fails or is short -/
theorem writer_error (wn en : Bool) (cfg : Nat) (t : Table) (w : WBeh) :
    (wn = true → writerProcess wn en cfg t w = .errNilWriter) ∧
    (wn = false → en = false → format t (effFormat cfg) = none → writerProcess wn en cfg t w = .errNotMarshaled) ∧
    (wn = false → en = false → ∀ v, format t (effFormat cfg) = some v → v ≠ [] →
        (w = .fail ∨ ∃ n, w = .short n ∧ n < v.length) → writerProcess wn en cfg t w = .errWrite) := by
  refine ⟨fun h => h ▸ rfl, fun h1 h2 h3 => h1 ▸ h2 ▸ writerProcess_none w h3, fun h1 h2 v h3 hne h4 => ?_⟩
  rw [h1, h2, writerProcess_some w h3, if_neg (by simpa using hne)]
  rcases h4 with rfl | ⟨n, rfl, h5⟩
  · rfl
  · exact if_pos h5

/-- the format table is last-writer-wins -/
theorem table_lww (t : Table) (f g : Nat) (v : Bytes) :
    format (formattedAs t f v) g = if g = f then some v else format t g :=
  Keyed.assoc_put t f v g

/-- the table after a history of `FormattedAs` calls, oldest first -/
def writes (t : Table) (ws : List (Nat × Bytes)) : Table := ws.foldl (fun t w => formattedAs t w.1 w.2) t

/-- the abstract specification: a format name maps to the value of the last call that named it -/
def lastWrite (ws : List (Nat × Bytes)) (g : Nat) : Option Bytes := (ws.reverse.find? (fun w => w.1 == g)).map (·.2)

/-- **Refinement to a plain map, for every history**: after any sequence of `FormattedAs` calls
`Format g` yields the value of the last call that named `g`, whatever came between, and what the
table held before when no call named it. -/
theorem table_history (t : Table) (ws : List (Nat × Bytes)) (g : Nat) :
    format (writes t ws) g = (lastWrite ws g).or (format t g) := by
  -- newest call first, so that the recursion of `find?` meets the last step of `writes`
  suffices ∀ rs : List (Nat × Bytes),
      format (writes t rs.reverse) g = ((rs.find? (fun w => w.1 == g)).map (·.2)).or (format t g) by
    have := this ws.reverse
    rwa [List.reverse_reverse] at this
  intro rs
  induction rs with
  | nil => rfl
  | cons r rs ih =>
    rw [List.reverse_cons, writes, List.foldl_append, List.foldl_cons, List.foldl_nil, table_lww, List.find?_cons]
    by_cases h : g = r.1
    · rw [if_pos h, h, beq_self_eq_true']; rfl
    · rw [if_neg h, beq_false_of_ne (Ne.symm h)]; exact ih

/-- **At most one value per format, for every history**: no sequence of `FormattedAs` calls leaves
two entries under one format name (so no reader can ever see a stale value behind a fresh one). -/
theorem table_keys_nodup (t : Table) (ws : List (Nat × Bytes)) (h : (t.map (·.1)).Nodup) :
    ((writes t ws).map (·.1)).Nodup := by
  induction ws generalizing t with
  | nil => exact h
  | cons w ws ih => exact ih _ (Keyed.keys_put_nodup h w.1 w.2)

/-- formatters for different formats do not disturb each other: in whichever order two of them store
their bytes, every sink reads the same -/
theorem table_commutes (t : Table) (a b : Nat × Bytes) (h : a.1 ≠ b.1) (g : Nat) :
    format (writes t [a, b]) g = format (writes t [b, a]) g := by
  simp only [writes, List.foldl_cons, List.foldl_nil, table_lww]
  by_cases h1 : g = a.1
  · rw [if_neg (h1 ▸ h), if_pos h1, if_pos h1]
  · rw [if_neg h1, if_neg h1]

/-- storing a format again replaces the entry, it does not add one: a formatter that runs twice (the
same node in two pipelines of one event) leaves the table as after one run -/
theorem table_idempotent (t : Table) (f : Nat) (v w : Bytes) :
    formattedAs (formattedAs t f v) f w = formattedAs t f w := by
  simp [formattedAs, List.filter_append, List.filter_filter]

/-- an event formatted by nobody has bytes for no format: every sink refuses it -/
theorem table_empty (g : Nat) : format [] g = none := rfl

example : format (writes [] [(1, [7]), (2, [8]), (1, [9])]) 1 = some [9] ∧
    writes [] [(1, [7]), (2, [8]), (1, [9])] = [(2, [8]), (1, [9])] := by decide

/-- FileSink's special paths: /dev/null succeeds without looking at the event; stdout / stderr are a
pass-through of the configured format's bytes -/
theorem filesink_specials (cfg : Nat) (t : Table) :
    fileSinkSpecial 1 cfg t = some .nothing ∧
    (∀ v, format t (effFormat cfg) = some v → fileSinkSpecial 2 cfg t = some (.wrote v)) ∧
    (format t (effFormat cfg) = none → fileSinkSpecial 2 cfg t = some .errNotMarshaled) :=
  ⟨rfl, fun v h => by rw [fileSinkSpecial, h]; rfl, fun h => by rw [fileSinkSpecial, h]; rfl⟩

/-- ChannelSink: the single select yields exactly one of {sent, context error, timeout error}, and
only an outcome whose arm is ready; if some arm is ready the select does not block -/
theorem channel_exactly_one (cr cd to : Bool) (o : ChanOut) :
    (o ∈ chanOutcomes cr cd to ↔ (o = .sent ∧ cr = true) ∨ (o = .ctxErr ∧ cd = true) ∨ (o = .timeoutErr ∧ to = true)) ∧
    ((cr || cd || to) = true → chanOutcomes cr cd to ≠ []) := by
  have hmem : ∀ o, o ∈ chanOutcomes cr cd to ↔
      (o = .sent ∧ cr = true) ∨ (o = .ctxErr ∧ cd = true) ∨ (o = .timeoutErr ∧ to = true) := fun o => by
    simp only [chanOutcomes, List.mem_append, List.mem_ite_nil_right, List.mem_singleton, and_comm, or_assoc]
  refine ⟨hmem o, fun h => ?_⟩
  simp only [Bool.or_eq_true] at h
  rcases h with (h | h) | h
  · exact List.ne_nil_of_mem ((hmem .sent).mpr (Or.inl ⟨rfl, h⟩))
  · exact List.ne_nil_of_mem ((hmem .ctxErr).mpr (Or.inr (Or.inl ⟨rfl, h⟩)))
  · exact List.ne_nil_of_mem ((hmem .timeoutErr).mpr (Or.inr (Or.inr ⟨rfl, h⟩)))

/-- the sinks' single WriteTo happens under their own mutex, exclusively (regenerated fact) -/
theorem write_under_lock : Evl.Generated.sinkWrites.all (·.2) = true ∧
    (Evl.Generated.sinkWrites.any (·.1 == 0)) = true ∧ (Evl.Generated.sinkWrites.any (·.1 == 1)) = true := by decide

/-- ChannelSink hands the event over in a single select that also watches the context and the
timeout, so whichever becomes ready first ends the call (regenerated from channel_sink.go) -/
theorem channel_single_select : Evl.Generated.channelSelects = 1 ∧ Evl.Generated.channelSendWithCtx = true ∧
    Evl.Generated.channelSendWithTimer = true ∧ Evl.Generated.channelUnguardedSends = 0 := by decide

example : writerProcess false false 0 [(1, [7, 8])] .ok = .wrote [7, 8] := by decide
example : writerProcess false false 5 [(1, [7, 8])] .ok = .errNotMarshaled := by decide
example : writerProcess false false 0 [(1, [7, 8])] (.short 1) = .errWrite := by decide

/-- FileSink on a regular file: an event that has no bytes for the sink's format is refused ("event
was not marshaled") before the file is even looked at — no file is created, opened, rotated or
written, no counter moves -/
theorem filesink_refuses_unformatted (c : Evl.FileSink.Cfg) (s : Evl.FileSink.St) :
    Evl.FileSink.step c s .noFormat = (s, .errFormat) := rfl

end Evl.C13
