import Evl.Model.FileSink
import Evl.Lemmas.FileSinkOrd
import Evl.Generated.Decisions
/-!
# C08 — FileSink never loses, duplicates, reorders or tears an acknowledged event

Model: M5 `FileSink` over an inode-level file system (an externally renamed file keeps receiving
the writes until Reopen).  An acknowledged event is appended whole, in one step: one `write(2)` on an
`O_APPEND` descriptor, assumed atomic under SIGKILL (DESIGN.md §8) and exercised by the SIGKILL runs.

Not covered by a theorem: the suffix shape when files were renamed away by somebody else (a renamed
file is outside the sink's name space and is never pruned, so what remains is then not a suffix in
general — the statement's "only files removed by the retention limit may be missing" still holds by
`retention_only_removes`).
-/
namespace Evl.C08
open Evl.FileSink

theorem open_contents (c : Cfg) (s : St) : contents (openFile c s) = contents s ∧ (openFile c s).acked = s.acked :=
  ⟨openFile_contents c s, openFile_acked c s⟩

theorem sublist_flatMap {α β : Type} (f : α → List β) {l₁ l₂ : List α} (h : l₁.Sublist l₂) :
    (l₁.flatMap f).Sublist (l₂.flatMap f) := by
  induction h with
  | slnil => exact List.Sublist.refl _
  | cons a _ ih => exact List.Sublist.trans ih (List.sublist_append_right _ _)
  | cons_cons a _ ih => exact List.Sublist.append_left ih _

/-- pruneFiles removes only whole files; nothing at all when MaxFiles = 0 -/
theorem retention_only_removes (c : Cfg) (s : St) :
    (contents (prune c s)).Sublist (contents s) ∧ (c.maxFiles = 0 → prune c s = s) := by
  refine ⟨?_, fun h => prune_zero h⟩
  obtain ⟨_, e⟩ := prune_eq c s
  rw [e]
  exact sublist_flatMap _ List.filter_sublist

theorem append_contents (s : St) (i ev size : Nat) (h : ∃ x ∈ s.inodes, x.id = i) :
    ev ∈ contents (appendTo s i ev size) ∧ (∀ e ∈ contents s, e ∈ contents (appendTo s i ev size)) ∧
    (∀ e ∈ contents (appendTo s i ev size), e ∈ contents s ∨ e = ev) :=
  ⟨mem_contents_appendTo.mpr (Or.inr ⟨h, rfl⟩), fun _ he => mem_contents_appendTo.mpr (Or.inl he),
    fun _ he => (mem_contents_appendTo.mp he).imp_right And.right⟩

theorem rotate_acked (c : Cfg) (s : St) (el : Nat) : (rotate c s el).1.acked = s.acked := by
  rcases rotate_cases c s el with ⟨_, e⟩ | e | ⟨_, e⟩ | ⟨i, _, e⟩ <;> rw [e]
  · rfl
  all_goals rw [openFile_acked, prune_acked]; rfl

theorem rotate_contents {c : Cfg} (hc : c.maxFiles = 0) (s : St) (el : Nat) :
    contents (rotate c s el).1 = contents s := by
  rcases rotate_cases c s el with ⟨_, e⟩ | e | ⟨_, e⟩ | ⟨i, _, e⟩ <;> rw [e]
  · rfl
  all_goals rw [openFile_contents, prune_zero hc]; rfl

theorem step_in_order (c : Cfg) (hc : c.maxFiles = 0) (s : St) (op : Op)
    (h : FileSink.Ord c s ∧ contents s = s.acked) : FileSink.Ord c (step c s op).1 ∧ contents (step c s op).1 = (step c s op).1.acked := by
  refine step_induct (P := fun s => FileSink.Ord c s ∧ contents s = s.acked) ?_ ?_ ?_ ?_ ?_ s h
  · exact fun s h => ⟨ord_open h.1, by rw [openFile_contents, openFile_acked, h.2]⟩
  · exact fun s h => ⟨ord_close h.1, h.2⟩
  · exact fun s el h => ⟨ord_rotate h.1, by rw [rotate_contents hc, rotate_acked, h.2]⟩
  · exact fun s i ev size hfd h => ⟨ord_append h.1, by rw [append_at_end h.1 hfd, h.2]; rfl⟩
  · exact fun k _ s n h => ⟨ord_extRename h.1, h.2⟩

/-- **Exactly once, in acknowledgement order, across files.**  With MaxFiles = 0, after every
operation sequence (size- or time-triggered rotations, Reopen, external renames of the active file)
reading the sink's files from the oldest to the newest yields exactly the acknowledged events, each
once, in acknowledgement order. -/
theorem exactly_once_in_order (c : Cfg) (hc : c.maxFiles = 0) (ops : List Op) :
    contents (run c {} ops) = (run c {} ops).acked :=
  (run_induct (fun s op _ => step_in_order c hc s op) {} ⟨ord_init c, rfl⟩).2

/-- **No loss.** With MaxFiles = 0, after every operation sequence every acknowledged event is in the
sink's files (rotations, Reopen and external renames of the active file included), -/
theorem no_loss_without_retention (c : Cfg) (hc : c.maxFiles = 0) (ops : List Op) :
    ∀ e ∈ (run c {} ops).acked, e ∈ contents (run c {} ops) :=
  fun _ he => exactly_once_in_order c hc ops ▸ he

/-- ... **and nothing is invented**: every event in the files was acknowledged. -/
theorem nothing_invented (c : Cfg) (hc : c.maxFiles = 0) (ops : List Op) :
    ∀ e ∈ contents (run c {} ops), e ∈ (run c {} ops).acked :=
  fun _ he => exactly_once_in_order c hc ops ▸ he

def NoForeign (s : St) : Prop := ∀ e ∈ s.dir, ∀ k, e.1 ≠ Name.foreign k

theorem prune_suffix {c : Cfg} {s : St} (ho : FileSink.Ord c s) (hts : ∀ e ∈ s.dir, isTs e.1 = true) :
    contents (prune c s) <:+ contents s := by
  by_cases hm : c.maxFiles = 0
  · rw [prune_zero hm]; exact List.suffix_refl _
  · generalize hk : (s.dir.filterMap tsOf).length - c.maxFiles = k
    have hst : stale c s = (s.inodes.map (·.id)).take k := by
      rw [stale, hk, List.map_take, filterMap_tsOf_snd, List.filter_eq_self.mpr hts, ho.dirInodes]
    rw [prune_of_ord ho hm, contents, hst]
    rw [Keyed.filter_take_drop (·.id) s.inodes (ho.ids_nodup) k]
    exact ⟨(s.inodes.take k).flatMap (·.evs), by rw [← List.flatMap_append, List.take_append_drop, contents]⟩

theorem open_noForeign {c : Cfg} {s : St} (h : NoForeign s) : NoForeign (openFile c s) := by
  rcases openFile_cases c s with ⟨_, _, e⟩ | ⟨_, _, e⟩ | ⟨_, e⟩ <;> rw [e]
  · exact h
  · exact h
  · intro e he k
    rcases List.mem_append.mp he with he | he
    · exact h e he k
    · rw [List.mem_singleton.mp he]
      rcases openName_cases c s with ⟨_, hn⟩ | ⟨_, hn⟩ <;> exact hn ▸ Name.noConfusion

theorem open_prune_suffix {c : Cfg} {s : St} (ho : FileSink.Ord c s) (hp : ∀ j, (Name.plain, j) ∉ s.dir) (hf : NoForeign s) :
    contents (openFile c (prune c s)) <:+ contents s ∧ NoForeign (openFile c (prune c s)) := by
  have hts : ∀ e ∈ s.dir, isTs e.1 = true := fun ⟨en, ei⟩ he => by
    cases en with
    | plain => exact absurd he (hp ei)
    | foreign k => exact absurd rfl (hf _ he k)
    | ts n => rfl
  obtain ⟨_, e⟩ := prune_eq c s
  exact ⟨(openFile_contents c _).symm ▸ prune_suffix ho hts,
    open_noForeign fun x hx => hf x (List.mem_filter.mp (e ▸ hx)).1⟩

theorem rotate_suffix {c : Cfg} {s : St} {el : Nat} (ho : FileSink.Ord c s) (hf : NoForeign s) :
    contents (rotate c s el).1 <:+ contents s ∧ NoForeign (rotate c s el).1 := by
  rcases rotate_cases c s el with ⟨_, e⟩ | e | ⟨hu, e⟩ | ⟨i, hi, e⟩ <;> simp only [e]
  · exact ⟨List.suffix_refl _, hf⟩
  · exact ⟨List.suffix_refl _, hf⟩
  · exact open_prune_suffix (ord_close ho) (ho.noPlain hu) hf
  · refine open_prune_suffix (ord_renamePlain (ord_close ho) hi) (renamePlain_noPlain _ i) fun e he k => ?_
    obtain ⟨x, hx, rfl⟩ := List.mem_map.mp he
    split
    · exact Name.noConfusion
    · exact hf x hx k

def notRename : Op → Bool
  | .extRename _ => false
  | _ => true

structure Retained (c : Cfg) (s : St) : Prop where
  ord : FileSink.Ord c s
  own : NoForeign s
  suffix : contents s <:+ s.acked

theorem step_suffix (c : Cfg) (s : St) (op : Op) (hop : notRename op = true) (h : Retained c s) :
    Retained c (step c s op).1 := by
  refine step_induct (P := Retained c) ?_ ?_ ?_ ?_ ?_ s h
  · exact fun s h => ⟨ord_open h.ord, open_noForeign h.own, by rw [openFile_contents, openFile_acked]; exact h.suffix⟩
  · exact fun s h => ⟨ord_close h.ord, h.own, h.suffix⟩
  · intro s el h
    obtain ⟨hs, hnf⟩ := rotate_suffix h.ord h.own
    exact ⟨ord_rotate h.ord, hnf, rotate_acked c s el ▸ hs.trans h.suffix⟩
  · intro s i ev size hfd h
    refine ⟨ord_append h.ord, h.own, ?_⟩
    rw [append_at_end h.ord hfd]
    exact List.suffix_append_self_iff.mpr h.suffix
  · exact fun k hk => by subst hk; cases hop

/-- **Retention leaves a suffix.**  For every configuration (any MaxFiles) and every operation
sequence in which nobody renames files away, what the sink's files hold — read oldest to newest — is
a suffix of the acknowledged sequence: only the oldest events can be missing, and those only through
`pruneFiles`. -/
theorem suffix_under_retention (c : Cfg) (ops : List Op) (hops : ops.all notRename = true) :
    contents (run c {} ops) <:+ (run c {} ops).acked :=
  (run_induct (fun s op hop => step_suffix c s op (List.all_eq_true.mp hops op hop)) {}
    ⟨ord_init c, nofun, List.suffix_refl _⟩).suffix

structure WF (s : St) : Prop where
  fdIn : ∀ i, s.fd = some i → ∃ x ∈ s.inodes, x.id = i
  dirIn : ∀ e ∈ s.dir, ∃ x ∈ s.inodes, x.id = e.2

theorem wf_iff {s : St} : WF s ↔
    (∀ i, s.fd = some i → i ∈ s.inodes.map (·.id)) ∧ ∀ e ∈ s.dir, e.2 ∈ s.inodes.map (·.id) :=
  ⟨fun h => ⟨fun i hi => List.mem_map.mpr (h.fdIn i hi), fun e he => List.mem_map.mpr (h.dirIn e he)⟩,
   fun h => ⟨fun i hi => List.mem_map.mp (h.1 i hi), fun e he => List.mem_map.mp (h.2 e he)⟩⟩

theorem open_wf {c : Cfg} {s : St} (h : WF s) : WF (openFile c s) := by
  rw [wf_iff] at h ⊢
  rcases openFile_cases c s with ⟨_, _, e⟩ | ⟨i, hi, e⟩ | ⟨_, e⟩ <;> rw [e]
  · exact h
  · simp only [chmod_map (·.id) fun _ _ => rfl]
    exact ⟨fun j hj => Option.some.inj hj ▸ h.2 _ hi, h.2⟩
  · simp only [List.map_append, List.map_cons, List.map_nil, List.mem_append, List.mem_singleton]
    refine ⟨fun j hj => Or.inr (Option.some.inj hj).symm, fun e he => he.imp (h.2 e) (congrArg Prod.snd)⟩

theorem WF.mapDir {s : St} (h : WF s) {g : Name × Nat → Name × Nat} {n : Nat}
    (hg : ∀ e ∈ s.dir, ∃ e' ∈ s.dir, (g e).2 = e'.2) : WF { s with dir := s.dir.map g, stamp := n } := by
  refine ⟨h.fdIn, fun e he => ?_⟩
  obtain ⟨x, hx, rfl⟩ := List.mem_map.mp he
  obtain ⟨e', he', hge⟩ := hg x hx
  exact hge ▸ h.dirIn e' he'

theorem close_wf {s : St} (h : WF s) : WF (closeFd s) :=
  ⟨fun _ hi => (nomatch hi), h.dirIn⟩

theorem rotate_wf {c : Cfg} (hc : c.maxFiles = 0) {s : St} {el : Nat} (h : WF s) : WF (rotate c s el).1 := by
  rcases rotate_cases c s el with ⟨_, e⟩ | e | ⟨_, e⟩ | ⟨i, hi, e⟩ <;> simp only [e, prune_zero hc]
  · exact h
  · exact close_wf h
  · exact open_wf (close_wf h)
  · refine open_wf ((close_wf h).mapDir fun e he => ?_)
    split
    · exact ⟨_, hi, rfl⟩
    · exact ⟨e, he, rfl⟩

structure Holds (s : St) : Prop where
  wf : WF s
  all : ∀ e ∈ s.acked, e ∈ contents s
  only : ∀ e ∈ contents s, e ∈ s.acked

theorem Holds.of_wf {s s' : St} (h : Holds s) (hw : WF s') (hc : contents s' = contents s) (ha : s'.acked = s.acked) :
    Holds s' :=
  ⟨hw, hc ▸ ha ▸ h.all, hc ▸ ha ▸ h.only⟩

theorem append_holds (s : St) (i ev size : Nat) (hfd : s.fd = some i) (h : Holds s) : Holds (appendTo s i ev size) := by
  refine ⟨wf_iff.mpr (appendTo_ids s i ev size ▸ wf_iff.mp h.wf), fun e he => ?_, fun e he => ?_⟩
  · exact mem_contents_appendTo.mpr ((List.mem_append.mp he).imp (h.all e)
      fun he => ⟨h.wf.fdIn i hfd, List.mem_singleton.mp he⟩)
  · exact List.mem_append.mpr ((mem_contents_appendTo.mp he).imp (h.only e) fun he => List.mem_singleton.mpr he.2)

/-- The membership form of `exactly_once_in_order`, kept by a step from *any* state in which descriptor
and directory refer to linked inodes (`WF`), not only from a reachable one. -/
theorem step_holds (c : Cfg) (hc : c.maxFiles = 0) (s : St) (op : Op) (h : Holds s) : Holds (step c s op).1 :=
  step_induct (P := Holds)
    (fun s h => h.of_wf (open_wf h.wf) (openFile_contents c s) (openFile_acked c s))
    (fun _ h => h.of_wf (close_wf h.wf) rfl rfl)
    (fun s el h => h.of_wf (rotate_wf hc h.wf) (rotate_contents hc s el) (rotate_acked c s el))
    append_holds
    (fun _ _ _ _ h => h.of_wf (h.wf.mapDir fun e he => ⟨e, he, by split <;> rfl⟩) rfl rfl) s h

/-- Non-vacuity: rotation by size, an external rename followed by Reopen, timestamp-only naming. -/
def demoOps : List Op := [.write 1 60 0, .write 2 60 0, .write 3 60 0, .extRename 1, .write 4 10 0, .reopen, .write 5 10 0]
example : contents (run ⟨100, 0, 0, true, 0⟩ {} demoOps) = [1, 2, 3, 4, 5] ∧ (run ⟨100, 0, 0, true, 0⟩ {} demoOps).acked = [1, 2, 3, 4, 5] := by decide +kernel
example : (run ⟨100, 0, 0, true, 0⟩ {} demoOps).dir = [(Name.ts 2, 1), (Name.foreign 1, 3), (Name.plain, 4)] := by decide +kernel

/-- retention at work: three rotations with MaxFiles = 1, the two oldest files are gone -/
def demoRet : List Op := [.write 1 60 0, .write 2 60 0, .write 3 60 0, .write 4 60 0, .reopen, .write 5 60 0]
example : contents (run ⟨50, 1, 0, false, 0⟩ {} demoRet) = [3, 4, 5] ∧ (run ⟨50, 1, 0, false, 0⟩ {} demoRet).acked = [1, 2, 3, 4, 5] := by decide +kernel
example : demoRet.all notRename = true := by decide

/-- **A rotation is one atomic directory operation** (regenerated from file_sink.go on every run): the
only thing `rotate` itself does to the directory is a single `os.Rename` of the plain file to its
time-stamped name — the model's rotation step is one step, and a process killed at any moment leaves
either the old name or the new one, never both and never neither (the atomicity of rename(2) itself is
the operating system's, §8). -/
theorem rotation_is_one_rename : Evl.Generated.rotateOsCalls = ["Rename"] := by decide

end Evl.C08
