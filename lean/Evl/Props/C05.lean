import Evl.Lemmas.RegistryStep
/-!
# C05 — only well-formed pipelines are ever registered; failed calls change nothing

Model: M1 `Registry`.  The acceptance theorem relates the code's recursive `doValidate`
(`validateChain`) plus the id / registration / policy checks of `RegisterPipeline` to the flat rule
of the statement (unknown node types included: they are just numbers other than 1–4).
-/
namespace Evl.C05
open Evl.Registry

def tyOf (b : Broker) (id : Nat) : Option Nat := (lookupNode b.nodes id).map (·.ty)

/-- The statement's acceptance rule. -/
def WellFormed (b : Broker) (ty pid : Nat) (ids : List Nat) (pol : Pol) : Prop :=
  pid ≠ 0 ∧ ty ≠ 0 ∧ ids ≠ [] ∧ 0 ∉ ids ∧
  (∀ id ∈ ids, (lookupNode b.nodes id).isSome = true) ∧
  (∃ pre f s, ids = pre ++ [f, s] ∧ tyOf b s = some 3 ∧ (tyOf b f = some 2 ∨ tyOf b f = some 4)) ∧
  (∀ o, lookupPipe b.pipes ty pid = some o → o.deny = false) ∧
  polValid pol = true

/-- `Registry.validateChain_flat`, under the name check C05 lists (checkprops.py) -/
theorem validateChain_flat (tys : List Nat) (par : Option Nat) (hne : tys ≠ []) :
    validateChain par tys = none ↔
      (∃ pre f, tys = pre ++ [f, 3] ∧ (f = 2 ∨ f = 4)) ∨ (tys = [3] ∧ (par = some 2 ∨ par = some 4)) :=
  Registry.validateChain_flat tys par hne

theorem tyOf_getD {b : Broker} {id : Nat} (h : (lookupNode b.nodes id).isSome = true) (n : Nat) :
    (tyOf b id).getD 0 = n ↔ tyOf b id = some n := by
  obtain ⟨e, he⟩ := Option.isSome_iff_exists.mp h
  simp [tyOf, he]

theorem valid_resolved_iff {b : Broker} {ids : List Nat} {bound : List Bound} (hne : ids ≠ [])
    (hres : resolve b.nodes ids = some bound) :
    validateChain none (bound.map (·.ty)) = none ↔
    ∃ pre f s, ids = pre ++ [f, s] ∧ tyOf b s = some 3 ∧ (tyOf b f = some 2 ∨ tyOf b f = some 4) := by
  have hreg := resolve_isSome_iff.mp (by rw [hres]; rfl)
  rw [resolve_tys hres]
  refine (validateChain_map_none_iff (fun id => (tyOf b id).getD 0) ids hne).trans ?_
  refine exists_congr fun pre => exists_congr fun f => exists_congr fun s => and_congr_right fun hsplit => ?_
  have hf := hreg f (by simp [hsplit])
  have hs := hreg s (by simp [hsplit])
  rw [tyOf_getD hs, tyOf_getD hf, tyOf_getD hf]

/-- RegisterPipeline succeeds exactly on the well-formed definitions. -/
theorem accept_iff (b : Broker) (ty pid : Nat) (ids : List Nat) (pol : Pol) :
    (step b (.regPipe ty pid ids pol)).2 = .ok ↔ WellFormed b ty pid ids pol := by
  constructor
  · intro h
    have hs := step_spec b (.regPipe ty pid ids pol)
    generalize step b (.regPipe ty pid ids pol) = s at hs h
    cases hs with
    | refused | refusedLate => cases h
    | passive _ _ _ hop => cases hop
    | regPipe _ _ _ _ bound hargs hpol hdeny hres hval =>
      obtain ⟨hpid, hty, hne, h0⟩ := hargs
      exact ⟨hpid, hty, hne, h0, resolve_isSome_iff.mp (by rw [hres]; rfl), (valid_resolved_iff hne hres).mp hval,
        hdeny, hpol⟩
  · rintro ⟨hpid, hty, hne, h0, hreg, hflat, hdeny, hpol⟩
    obtain ⟨bound, hres⟩ := Option.isSome_iff_exists.mp (resolve_isSome_iff.mpr hreg)
    have hval := (valid_resolved_iff hne hres).mpr hflat
    rw [(Step.regPipe ty pid ids pol bound ⟨hpid, hty, hne, h0⟩ hpol hdeny hres hval).is_step]

/-- A call that reports an error (RemovePipelineAndNodes: reports `false`) leaves the registered
nodes, their reference counts and the registered pipelines exactly as they were. -/
theorem failed_noop (b : Broker) (op : Op) (e : Err) (h : (step b op).2 = .err e) :
    (step b op).1.nodes = b.nodes ∧ (step b op).1.pipes = b.pipes := by
  have hs := step_spec b op
  generalize step b op = s at hs h
  induction hs with
  | refused | refusedLate | passive => exact ⟨rfl, rfl⟩
  | regNode | removeNode | regPipe | removePipe | rpan => cases h

/-- What a failed RegisterPipeline may still change (not among the observables the statement lists,
but modelled): the graph of the event type exists afterwards once the id and option checks passed. -/
theorem failed_graph_residue (b : Broker) (ty pid : Nat) (ids : List Nat) (pol : Pol) (e : Err)
    (h : (step b (.regPipe ty pid ids pol)).2 = .err e) :
    (step b (.regPipe ty pid ids pol)).1.graphs = b.graphs ∨
    (step b (.regPipe ty pid ids pol)).1.graphs = ensureGraph b.graphs ty := by
  have hs := step_spec b (.regPipe ty pid ids pol)
  generalize step b (.regPipe ty pid ids pol) = s at hs h ⊢
  cases hs with
  | refused => exact Or.inl rfl
  | refusedLate => exact Or.inr rfl
  | passive _ _ _ hop => cases hop
  | regPipe => cases h

/-- IsAnyPipelineRegistered is true for a type exactly when a pipeline is registered for it. -/
theorem isAny_iff (b : Broker) (ty : Nat) :
    (step b (.isAny ty)).2 = .bool true ↔ ∃ p ∈ b.pipes, p.ty = ty := by
  show Res.bool (!(pipesOf b ty).isEmpty) = .bool true ↔ _
  rw [Res.bool.injEq, Bool.not_eq_true', List.isEmpty_eq_false_iff_exists_mem]
  simp only [pipesOf, List.mem_filter, beq_iff_eq]

/-- ≥ 2 nodes, sink last, formatter(-filter) before it -/
def PipeOk (p : Pipe) : Prop := ∃ pre f s, p.nodes = pre ++ [f, s] ∧ s.ty = 3 ∧ (f.ty = 2 ∨ f.ty = 4)

theorem registered_ok_step (b : Broker) (op : Op) (h : ∀ p ∈ b.pipes, PipeOk p) : ∀ p ∈ (step b op).1.pipes, PipeOk p := by
  have hs := step_spec b op
  generalize step b op = s at hs ⊢
  induction hs with
  | refused | refusedLate | passive | regNode | removeNode => exact h
  | regPipe ty pid ids pol bound hargs _ _ hres hval =>
    intro p hp
    rcases List.mem_append.mp hp with hp | hp
    · exact h p (mem_erasePipe.mp hp).1
    · rw [List.mem_singleton.mp hp]
      obtain ⟨_, _, hids, _⟩ := hargs
      have hne : bound ≠ [] := fun hb => hids (by rw [← resolve_ids hres, hb]; rfl)
      exact (validateChain_map_none_iff (·.ty) bound hne).mp hval
  | removePipe | rpan => exact fun p hp => h p (mem_erasePipe.mp hp).1

/-- Only well-formed pipelines are ever registered, whatever the history. -/
theorem only_wellformed_registered (ops : List Op) : ∀ p ∈ (run init ops).pipes, PipeOk p :=
  run_induct registered_ok_step init (fun _ h => nomatch h)

/-- Non-vacuity: a well-formed and several ill-formed definitions against a concrete broker. -/
def demoB : Broker := run init
  [ .regNode 1 1 .pass false .dflt, .regNode 2 4 .pass false .dflt, .regNode 3 3 .drop false .dflt, .regNode 4 9 .pass false .dflt ]

example : (step demoB (.regPipe 1 1 [1, 3, 2, 3] .dflt)).2 = .ok := by decide +kernel
example : WellFormed demoB 1 1 [1, 3, 2, 3] .dflt := (accept_iff _ _ _ _ _).mp (by decide +kernel)
example : (step demoB (.regPipe 1 1 [1, 2] .dflt)).2 = .err .noChildren := by decide +kernel
example : (step demoB (.regPipe 1 1 [3] .dflt)).2 = .err .sinkAtRoot := by decide +kernel
example : (step demoB (.regPipe 1 1 [2, 4, 3] .dflt)).2 = .err .sinkNoFormatter := by decide +kernel
example : (step demoB (.regPipe 1 1 [1, 5, 3] .dflt)).2 = .err .notRegistered := by decide +kernel

end Evl.C05
