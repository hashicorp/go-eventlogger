import Evl.Lemmas.RegistryClose
import Evl.Props.NodeClose   -- check C06 audits `Evl.NodeClose.*` through this module (checkprops.py)
/-!
# C06 — node in-use accounting matches registered pipelines; nodes close exactly once

Model: M1 `Registry` (broker.go RegisterNode / RegisterPipeline / RemovePipeline /
RemovePipelineAndNodes / RemoveNode, graphmap.go Nodes, node.go flatten): an overwrite and
RemovePipeline release the old pipeline's references (`releaseNodes`), and each distinct node counts
once per pipeline (`flatten`).
-/
namespace Evl.C06
open Evl.Registry

/-- Reference count = number of registered pipelines listing the node, after every history. -/
theorem refs_eq_listing (ops : List Op) (id : Nat) (e : NodeEntry)
    (h : (id, e) ∈ (run init ops).nodes) : e.refs = listing (run init ops).pipes id :=
  (inv_run ops inv_init).refs id e h

/-- A node counts as in use (RemoveNode refuses it) exactly when a registered pipeline lists it. -/
theorem inUse_iff (ops : List Op) (id : Nat) (e : NodeEntry) (h : (id, e) ∈ (run init ops).nodes) :
    0 < e.refs ↔ ∃ p ∈ (run init ops).pipes, id ∈ p.ids := by
  rw [refs_eq_listing ops id e h]
  unfold listing
  simp only [List.countP_pos_iff, List.contains_iff_mem]

/-- Every node a registered pipeline lists stays registered (nothing a pipeline needs is removed). -/
theorem listed_registered (ops : List Op) (p : Pipe) (hp : p ∈ (run init ops).pipes) (id : Nat) (hid : id ∈ p.ids) :
    ∃ e, (id, e) ∈ (run init ops).nodes :=
  (inv_run ops inv_init).listed p hp id (List.contains_iff_mem.mpr hid)

/-- RemoveNode refuses an in-use node without side effects. -/
theorem removeNode_inUse (b : Broker) (id : Nat) (e : NodeEntry) (hid : id ≠ 0)
    (hl : lookupNode b.nodes id = some e) (hu : 0 < e.refs) :
    step b (.removeNode id) = (b, .err .inUse) := by
  show stepRemoveNode b id = _
  unfold stepRemoveNode
  rw [if_neg (mt beq_iff_eq.mp hid), hl]
  exact if_pos hu

/-- RemoveNode closes (once) and unregisters a registered node that is not in use; pipelines untouched. -/
theorem removeNode_free (b : Broker) (id : Nat) (e : NodeEntry) (hid : id ≠ 0)
    (hl : lookupNode b.nodes id = some e) (hu : e.refs = 0) :
    (step b (.removeNode id)).2 = .closed [e.inst] (if e.closeFails then some .closeErr else none) ∧
    lookupNode (step b (.removeNode id)).1.nodes id = none ∧
    (step b (.removeNode id)).1.pipes = b.pipes := by
  rw [(Step.removeNode id e hl hu hid).is_step]
  exact ⟨rfl, lookupNode_eraseNode, rfl⟩

/-- `rpan_effect` in any state that satisfies the registry invariant -/
theorem rpan_effect_of_inv (b : Broker) (hi : Inv b) (ty pid : Nat) (o : Pipe)
    (hty : ty ≠ 0) (hpid : pid ≠ 0)
    (ho : lookupPipe b.pipes ty pid = some o) :
    let b' := (step b (.rpan ty pid)).1
    (∃ insts anyErr, (step b (.rpan ty pid)).2 = .rpan true insts anyErr ∧
      (∀ i, i ∈ insts ↔ ∃ id e, (id, e) ∈ b.nodes ∧ id ∈ o.ids ∧ listing b'.pipes id = 0 ∧ e.inst = i)) ∧
    lookupPipe b'.pipes ty pid = none ∧
    (∀ q, q ∈ b'.pipes ↔ q ∈ b.pipes ∧ key q ≠ (ty, pid)) ∧
    (∀ id e, (id, e) ∈ b.nodes → ((∃ e', (id, e') ∈ b'.nodes) ↔ (id ∉ o.ids ∨ 0 < listing b'.pipes id))) := by
  obtain ⟨rfl, rfl⟩ := Prod.mk.inj (lookupPipe_some ho).2
  rw [(Step.rpan _ _ o ho (hi.graphs o (lookupPipe_some ho).1) hty hpid).is_step]
  dsimp only
  refine ⟨⟨_, _, rfl, fun i => ?_⟩, lookupPipe_erasePipe, fun q => mem_erasePipe, fun id e hm => ?_⟩
  · simp only [List.mem_map, mem_detach_gone, Prod.exists, and_assoc]
    refine exists_congr fun id => exists_congr fun e => and_congr_right fun hm => and_congr_right fun hc => ?_
    rw [hi.last_ref ho hm hc]
  · constructor
    · rintro ⟨e', he'⟩
      obtain ⟨e0, hm0, hk, _⟩ := mem_detach_kept.mp he'
      by_cases hoc : id ∈ o.ids
      · exact Or.inr (Nat.pos_of_ne_zero fun hz => hk ⟨hoc, (hi.last_ref ho hm0 hoc).mpr hz⟩)
      · exact Or.inl hoc
    · intro h
      refine ⟨_, mem_detach_kept.mpr ⟨e, hm, ?_, rfl⟩⟩
      rintro ⟨hoc, hle⟩
      rcases h with h | h
      · exact h hoc
      · exact Nat.ne_of_gt h ((hi.last_ref ho hm hoc).mp hle)

/-- What RemovePipelineAndNodes does in a reachable state: it removes the pipeline, closes and
unregisters exactly those of its nodes that no remaining pipeline lists, keeps every other node
registered with the count of the remaining pipelines, and reports `true`. -/
theorem rpan_effect (ops : List Op) (ty pid : Nat) (o : Pipe)
    (hty : ty ≠ 0) (hpid : pid ≠ 0)
    (ho : lookupPipe (run init ops).pipes ty pid = some o) :
    let b := run init ops
    let b' := (step b (.rpan ty pid)).1
    (∃ insts anyErr, (step b (.rpan ty pid)).2 = .rpan true insts anyErr ∧
      (∀ i, i ∈ insts ↔ ∃ id e, (id, e) ∈ b.nodes ∧ id ∈ o.ids ∧ listing b'.pipes id = 0 ∧ e.inst = i)) ∧
    lookupPipe b'.pipes ty pid = none ∧
    (∀ q, q ∈ b'.pipes ↔ q ∈ b.pipes ∧ key q ≠ (ty, pid)) ∧
    (∀ id e, (id, e) ∈ b.nodes → ((∃ e', (id, e') ∈ b'.nodes) ↔ (id ∉ o.ids ∨ 0 < listing b'.pipes id))) :=
  rpan_effect_of_inv _ (inv_run ops inv_init) ty pid o hty hpid ho

/-- No history makes the broker close a registration instance twice. -/
theorem close_once (ops : List Op) : (runClosed init ops).Nodup :=
  (List.nodup_append.mp (cinv_run ops cinv_init).nd).1

/-- Non-vacuity: a concrete history with an overwrite, a repeated node id, a shared node and a
RemovePipeline reaches a state where one node is in use, and RemovePipelineAndNodes then closes
exactly the unshared nodes. -/
def demo : List Op :=
  [ .regNode 1 1 .pass false .dflt, .regNode 2 2 .pass false .dflt, .regNode 3 3 .drop false .dflt,
    .regNode 4 3 .drop false .dflt,
    .regPipe 1 1 [1, 2, 3] .dflt, .regPipe 1 1 [1, 1, 2, 3] .dflt, .regPipe 1 2 [1, 2, 4] .dflt,
    .removePipe 1 2, .regPipe 2 1 [2, 4] .dflt ]

example : (run init demo).nodes.map (fun x => (x.1, x.2.refs)) = [(1, 1), (2, 2), (3, 1), (4, 1)] := by decide +kernel
example : (step (run init demo) (.rpan 1 1)).2 = .rpan true [1, 3] false := by decide +kernel
example : runClosed init (demo ++ [.rpan 1 1, .rpan 2 1]) = [1, 3, 2, 4] := by decide +kernel

end Evl.C06
