import Evl.Model.Sinks
import Evl.Lemmas.Keyed
import Evl.Lemmas.JsonRender
import Evl.Lemmas.JsonString
/-!
# C14 — JSON formatters emit one faithful JSON line and never alter the event

Model: M8 `Json` (the token stream `encoding/json` walks, rendered compactly with HTML escaping) and
M9's format table.

One line: no item the escaper writes holds a newline, whatever bytes — valid UTF-8 or not — the strings
contain (`Lemmas/JsonString`), and the rendering is commas and token texts (`Lemmas/JsonRender`).
The formatters only read the payload: the model is a pure function of it, and the harness compares the
payload before and after.
-/
namespace Evl.C14
open Evl.Json

/-- the escaper never emits a raw newline (`escBytes_no_nl`; the length bound is idle) -/
theorem esc_no_nl : ∀ (n : Nat) (s : Bytes), s.length ≤ n → 10 ∉ escBytes s :=
  fun _ s _ => escBytes_no_nl s

theorem quote_no_nl (s : Bytes) : 10 ∉ quote s := by
  unfold quote
  simp only [List.mem_append, List.mem_singleton, not_or]
  exact ⟨⟨by decide, escBytes_no_nl s⟩, by decide⟩

/-- number tokens are newline free (strconv output) -/
def tokOK : Tok → Prop
  | .num t => 10 ∉ t
  | _ => True

theorem tokText_no_nl (t : Tok) (h : tokOK t) : 10 ∉ tokText t := by
  cases t with
  | num tok => exact h
  | str s => exact quote_no_nl s
  | key s => exact fun hm => (List.mem_append.mp hm).elim (quote_no_nl s) (by decide)
  | bool b => cases b <;> decide
  | _ => decide

theorem render_no_nl : ∀ (ts : List Tok) (st : Stack) (k : Bool) (out : Bytes),
    (∀ t ∈ ts, tokOK t) → renderToks ts st k = some out → 10 ∉ out :=
  fun ts st k out hok => renderToks_forall (P := (10 ∉ ·)) (by decide) (by decide)
    (fun ha hb hm => (List.mem_append.mp hm).elim ha hb) ts st k out (fun t ht => tokText_no_nl t (hok t ht))

/-- **One line.** What the formatters store ends with a newline and contains no other newline byte,
for every payload, every event type (any bytes) and every creation-time token without newline. -/
theorem line (created ty : Bytes) (payload : List Tok) (b : Bytes) (hc : 10 ∉ created)
    (hp : ∀ t ∈ payload, tokOK t) (h : formatEvent created ty payload = some b) :
    ∃ body, b = body ++ [10] ∧ 10 ∉ body := by
  obtain ⟨p, hr, rfl⟩ := formatEvent_some h
  refine ⟨kCreated ++ created ++ kType ++ quote ty ++ kPayload ++ p ++ [125], (List.append_assoc _ [125] [10]).symm, ?_⟩
  simp only [List.mem_append, not_or]
  exact ⟨⟨⟨⟨⟨⟨by decide, hc⟩, by decide⟩, quote_no_nl ty⟩, by decide⟩, render_no_nl payload [] false p hp hr⟩, by decide⟩

/-- **Unencodable payloads.** An unsupported value anywhere ⇒ error: nothing stored, nothing forwarded. -/
theorem unencodable (created ty : Bytes) (payload : List Tok) (p : Pred) (h : Tok.unsupported ∈ payload) :
    jsonFormatter created ty payload = .error ∧ jsonFormatterFilter created ty payload p = .error := by
  have : formatEvent created ty payload = none := by
    unfold formatEvent render
    rw [render_unsupported payload [] false h]; rfl
  simp [jsonFormatter, jsonFormatterFilter, this]

/-- **Forwarding.** JSONFormatterFilter forwards exactly when its predicate is absent or returns true
(an error from the predicate is an error); Filter forwards exactly when its predicate returns true. -/
theorem predicate (created ty : Bytes) (payload : List Tok) (b : Bytes) (h : formatEvent created ty payload = some b) :
    jsonFormatter created ty payload = .forward b ∧
    jsonFormatterFilter created ty payload .absent = .forward b ∧
    jsonFormatterFilter created ty payload (.ret true) = .forward b ∧
    jsonFormatterFilter created ty payload (.ret false) = .dropped b ∧
    jsonFormatterFilter created ty payload .err = .error ∧
    filterNode (.ret true) = .forward ∧ filterNode (.ret false) = .dropped ∧ filterNode .err = .error := by
  simp [jsonFormatter, jsonFormatterFilter, filterNode, h]

/-- the bytes end up in a last-writer-wins table (`Event.FormattedAs` / `Format`) -/
theorem table (t : Evl.Sinks.Table) (f g : Nat) (v : Evl.Sinks.Bytes) :
    Evl.Sinks.format (Evl.Sinks.formattedAs t f v) f = some v :=
  (Keyed.assoc_put t f v f).trans (if_pos rfl)

end Evl.C14
