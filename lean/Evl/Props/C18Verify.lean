import Evl.Props.C18
import Evl.Lemmas.JsonCompact
import Evl.Model.CloudEventsVerify
/-!
# C18, continued — the consumer's check is not vacuous; the unsigned document is a byte string
-/
namespace Evl.C18
open Evl.CloudEvents Evl.Json

/-- the check is not vacuous: a document whose signature member was altered, or whose `serialized`
member does not decode, is not `verified` -/
example : verify (fun _ => some [115]) ([123, 34] ++ kSerialized ++ [34, 58, 34, 65, 65, 34, 44, 34] ++ kSerializedHmac ++ [34, 58, 34, 120, 34, 125, 10]) = .mismatch := by
  decide +kernel
example : verify (fun _ => some [115]) ([123, 34] ++ kSerialized ++ [34, 58, 34, 65, 34, 44, 34] ++ kSerializedHmac ++ [34, 58, 34, 115, 34, 125, 10]) = .malformed := by
  decide +kernel
example : verify (fun _ => some [115]) ([123, 34] ++ kSerialized ++ [34, 58, 34, 65, 65, 34, 44, 34] ++ kSerializedHmac ++ [34, 58, 34, 115, 34, 125, 10]) = .verified := by
  decide +kernel
example : verify (fun _ => some [115]) [123, 125, 10] = .notSigned := by decide

/-- the strings the formatter is given are byte strings: trivially true of Go strings and `[]byte`; the model's
bytes are natural numbers -/
structure InputsOK (c : Cfg) (e : Ev) : Prop where
  id : bytesOK (idOf e)
  source : bytesOK (c.source.getD [])
  schema : bytesOK (c.schema.getD [])
  ty : bytesOK e.ty
  time : bytesOK e.timeTok
  data : ∀ d, e.data = some d → allOK d

theorem str_ok (s : String) : bytesOK (str s) := by
  intro b hb
  obtain ⟨u, _, rfl⟩ := List.mem_map.mp hb
  exact u.toNat_lt

theorem allOK_docToks (c : Cfg) (e : Ev) (hi : InputsOK c e) (ct : Bytes) (hct : bytesOK ct) :
    allOK (docToks (idOf e) (c.source.getD []) e.ty e.data ct (c.schema.getD []) e.timeTok none) := by
  unfold docToks
  simp only [allOK_append, allOK, tokOK, str_ok, hct, hi.id, hi.source, hi.ty, hi.time, and_true, true_and, List.append_nil]
  constructor
  · split
    · rename_i d h; exact ⟨str_ok _, hi.data d h⟩
    · trivial
  · split
    · trivial
    · exact ⟨str_ok _, hi.schema, trivial⟩

theorem unsignedDoc_ok (c : Cfg) (e : Ev) (hi : InputsOK c e) (u : Bytes) (hu : unsignedDoc c e = some u) : bytesOK u := by
  refine encode_ok (allOK_mem _ (allOK_docToks c e hi _ ?_)) hu
  cases c.format == .text <;> exact str_ok _

/-- `unsignedDoc_ok` (either format); `hfmt` is idle -/
theorem unsigned_bytes (c : Cfg) (e : Ev) (hfmt : (c.format == .text) = false) (hi : InputsOK c e)
    (u : Bytes) (hu : unsignedDoc c e = some u) : bytesOK u :=
  unsignedDoc_ok c e hi u hu

end Evl.C18

