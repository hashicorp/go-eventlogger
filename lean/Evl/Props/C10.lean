import Evl.Props.C09  -- for the lemma modules it imports and for `demoCtx` / `demoTagged`; none of its theorems is used
/-!
# C10 — encrypt.Filter works on a private copy: the original event stays untouched

In a functional model "the input is not modified" holds by construction, so for that clause the
correspondence *is* the evidence: on every case of the C09 runs (flat and deep shapes) the harness
compares a deep snapshot of the payload taken before Process with the payload after Process.
Labelled **partial**: Go-level aliasing is outside the value model.  The theorems below say what the
forwarded copy keeps of the input: on M7 (flat structs), M7t (section `Tree`) and M7g (section `Tagged`).
-/
namespace Evl.C10
open Evl.Encrypt

/-- unexported fields, non-string fields, nil byte slices, public slices and values resolved to
"keep" (public, or operation overridden to none) come out unchanged -/
theorem shape (k : Keys) (ek : Option EventKeys) (ov : Overrides) (f : Field) (o : FOut)
    (h : filterOne k ek ov f = some o) :
    (f.exported = false → o = rawField f.kind) ∧
    (f.kind = .other → o = .one .other) ∧
    (f.kind = .bytes none → o = .one .nilBytes) ∧
    (∀ m, f.exported = true → (f.kind = .str m ∨ f.kind = .bytes (some m)) → action (fromTag f.tag ov) = .keep → o = .one (.plain m)) ∧
    ((fromTag f.tag ov).cls = .pub → o = rawField f.kind) := by
  have raw := fun hyp => Option.some.inj ((filterOne_raw hyp).symm.trans h)
  refine ⟨fun hex => (raw (.inl hex)).symm, fun hk => ?_, fun hk => ?_, fun m hex hk ha => ?_,
    fun hp => (raw (.inr (.inr (.inr hp)))).symm⟩
  · rw [← raw (.inr (.inl hk)), hk]; rfl
  · rw [← raw (.inr (.inr (.inl hk))), hk]; rfl
  · rw [filterOne_scalar hex hk, ha] at h
    exact (Option.some.inj h).symm

theorem filterElems_length (k : Keys) (ek : Option EventKeys) (a : Action) :
    ∀ (ms : List (Option Nat)) (ls : List Leaf), filterElems k ek a ms = some ls → ls.length = ms.length :=
  fun ms _ h => (mapM_some (filterElems_eq k ek a ms ▸ h)).1

theorem length_preserved (k : Keys) (ek : Option EventKeys) (fails : Bool) (ov : Overrides) (fs : List Field) (ls : List FOut)
    (h : processFlat k ek fails ov fs = .filtered ls) : ls.length = fs.length :=
  filterFields_length (processFlat_filtered h)

/-- with all operations overridden to none the very same event is forwarded -/
theorem identity (k : Keys) (ek : Option EventKeys) (fails : Bool) (ov : Overrides) (fs : List Field)
    (h : (effOps ov).all (· = .none) = true) : processFlat k ek fails ov fs = .same :=
  if_pos h

section Tree
open Evl.EncryptTree

/-- **Shape preserved at any depth.**  Whatever Process forwards has the input's skeleton: the same
constructors (pointer stays pointer, struct stays struct with the same fields in the same order,
slices and maps keep their lengths and keys, nil stays nil), a string / []byte position stays one,
every other scalar is untouched. -/
theorem tree_shape (c : Ctx) (ewi : Bool) (v v' : V) (h : process c ewi v = .filtered v') : skel v' = skel v :=
  (filtPayload_spec c v v' (process_filtered h)).1

theorem tree_identity (c : Ctx) (ewi : Bool) (v : V) (h : ((effOps c.ov).all (· = .none)) = true) :
    process c ewi v = .same :=
  if_pos h

end Tree

section Tagged
open Evl.EncryptTree Evl.EncryptTag

/-- **A value classified public by its pointer tag is preserved.**  A string under a top-level key
that a pointer tag names `/k` with a keeping classification (public; or overridden to none), and that
no other kind of tag touches, comes out as it went in — whatever the other tags do elsewhere in the
map, in whatever order. -/
theorem tagged_public_preserved (c : Ctx) (ewi : Bool) (tags : List PTag) (es es' : Items) (k m : Nat)
    (hf : find k es = some (.leaf (.plain m)))
    (hk : onlyKept c k tags) (hex : ∃ t ∈ tags, t.path = [k])
    (h : processTagged c ewi tags es = .filtered (.map es')) : find k es' = some (.leaf (.plain m)) :=
  (processTagged_key hf hk h).1 hex

/-- **Shape preserved (Taggable maps).**  Whatever Process forwards for a Taggable map — any tags, any
order, found or not, through nested maps and pointers to maps — has the input's skeleton: the same
keys at every level, maps stay maps, pointers stay pointers, a string stays a string position, every
other value is untouched. -/
theorem tagged_shape (c : Ctx) (ewi : Bool) (tags : List PTag) (es : Items) (v' : V)
    (h : processTagged c ewi tags es = .filtered v') : skel v' = skel (.map es) :=
  (processTagged_spec h).1

theorem tagged_identity (c : Ctx) (ewi : Bool) (tags : List PTag) (es : Items)
    (h : ((effOps c.ov).all (· = .none)) = true) : processTagged c ewi tags es = .same :=
  if_pos h

/-- the premises of `tagged_public_preserved` are met by a concrete tag list, and the public string comes out as it went in -/
example : onlyKept Evl.C09.demoCtx 4 [{ path := [4], cls := sPublic, op := [] }, { path := [1], cls := sSecret, op := [] }] := by
  intro t ht hh
  simp only [List.mem_cons, List.mem_nil_iff, or_false] at ht
  rcases ht with rfl | rfl
  · exact ⟨rfl, by decide⟩
  · simp at hh
example : ∃ es', processTagged Evl.C09.demoCtx false [{ path := [4], cls := sPublic, op := [] }, { path := [1], cls := sSecret, op := [] }]
    Evl.C09.demoTagged = .filtered (.map es') ∧ find 4 es' = some (.leaf (.plain 5)) ∧ find 1 es' = some (.leaf .redacted) :=
  ⟨_, rfl, rfl, rfl⟩

end Tagged

end Evl.C10
