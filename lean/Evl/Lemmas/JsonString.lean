import Evl.Model.JsonParse
/-!
# What the encoder writes for a string, item by item

`escBytes` (M8) and `sanitize` (M8r) walk a Go string in the same way, and what is written is a sequence of
*items* of three shapes (`Item`): a two-character escape, a `\uXXXX` escape, a run of bytes standing for
themselves.  A fact about encoded strings is proved for the three shapes (`item_bytes`, `item_read`) and
lifted by `esc_induct`, the induction over the walk.
-/
namespace Evl.Json

theorem hexDigit_spec : ∀ n < 16, hexVal (hexDigit n) = some n ∧
    0x20 ≤ hexDigit n ∧ hexDigit n < 0x80 ∧ hexDigit n ≠ 34 ∧ hexDigit n ≠ 92 := by decide +kernel

theorem utf8Len_high (l : Bytes) : ∀ x ∈ l.take (utf8Len l), 0x80 ≤ x := by
  fun_cases utf8Len l
  case case1 h | case2 h | case3 h =>
    simp only [isCont, Bool.and_eq_true, Bool.or_eq_true, decide_eq_true_eq, beq_iff_eq] at h
    intro x hx
    simp only [List.take_succ_cons, List.take_zero, List.mem_cons, List.mem_nil_iff, or_false] at hx
    omega
  all_goals exact fun _ h => nomatch h

/-- `Item p d`: the bytes `p` are one item, which the reader decodes to `d`.  `short` carries three facts that follow
from `simpleEsc c = some x` (`c` is one of eight letters), so that `item_bytes` and `item_read` need not invert it. -/
inductive Item : Bytes → Bytes → Prop
  | short {c x : Nat} : simpleEsc c = some x → c ≠ 117 → 32 < c → c < 128 → Item [92, c] [x]
  | uni {a b c d : Nat} : a < 16 → b < 16 → c < 16 → d < 16 →
      Item [92, 117, hexDigit a, hexDigit b, hexDigit c, hexDigit d] (utf8Enc (((a * 16 + b) * 16 + c) * 16 + d))
  | raw {q : Bytes} : (∀ x ∈ q, 0x20 ≤ x ∧ x ≠ 34 ∧ x ≠ 92) → Item q q

theorem escAscii_plain {b : Nat} (h : 0x20 ≤ b ∧ b ≠ 34 ∧ b ≠ 92 ∧ b ≠ 60 ∧ b ≠ 62 ∧ b ≠ 38) : escAscii b = [b] := by
  have ne : ∀ x, b ≠ x → (b == x) = false := fun x hx => beq_eq_false_iff_ne.mpr hx
  have lo : ∀ x, x < 0x20 → (b == x) = false := fun x hx => ne x (fun e => Nat.not_le_of_gt hx (e ▸ h.1))
  simp only [escAscii, ne 34 h.2.1, ne 92 h.2.2.1, lo 10 (by decide), lo 13 (by decide), lo 9 (by decide), lo 8 (by decide),
    lo 12 (by decide), ne 60 h.2.2.2.1, ne 62 h.2.2.2.2.1, ne 38 h.2.2.2.2.2, Bool.false_eq_true, ↓reduceIte, Bool.or_false,
    decide_eq_false (Nat.not_lt.mpr h.1)]

theorem esc_plain (s : Bytes) (h : ∀ b ∈ s, 0x20 ≤ b ∧ b < 0x80 ∧ b ≠ 34 ∧ b ≠ 92 ∧ b ≠ 60 ∧ b ≠ 62 ∧ b ≠ 38) : escBytes s = s := by
  induction s with
  | nil => rw [escBytes]
  | cons b t ih =>
    obtain ⟨hb, ht⟩ := List.forall_mem_cons.mp h
    rw [escBytes, if_pos hb.2.1, escAscii_plain ⟨hb.1, hb.2.2⟩, ih ht]
    rfl

theorem escAscii_item (b : Nat) (hb : b < 0x80) : Item (escAscii b) [b] := by
  fun_cases escAscii b
  case case8 =>  -- the eighth branch of `escAscii`: `\u00XX`
    have := Item.uni (a := 0) (b := 0) (by decide) (by decide) (Nat.div_lt_of_lt_mul (Nat.lt_trans hb (by decide)) : b / 16 < 16)
      (Nat.mod_lt b (by decide) : b % 16 < 16)
    rw [Nat.zero_mul, Nat.zero_add, Nat.div_add_mod', utf8Enc, if_pos hb] at this
    exact this
  case case9 h34 h92 _ _ _ _ _ h =>  -- the last: the byte stands for itself
    simp only [Bool.or_eq_true, decide_eq_true_eq, beq_iff_eq, not_or] at h h34 h92
    exact .raw (fun x hx => by rw [List.mem_singleton.mp hx]; exact ⟨Nat.le_of_not_lt h.1.1.1, h34, h92⟩)
  -- the seven two-character escapes: each is in the reader's table, by evaluation
  all_goals
    rename_i h; rw [eq_of_beq h]
    exact .short (by decide) (by decide) (by decide) (by decide)

theorem fffd_item : Item [92, 117, 102, 102, 102, 100] [0xEF, 0xBF, 0xBD] :=
  Item.uni (a := 15) (b := 15) (c := 15) (d := 13) (by decide) (by decide) (by decide) (by decide)

theorem escSeq_item {q : Bytes} (h : ∀ x ∈ q, 0x80 ≤ x) : Item (escSeq q) q := by
  unfold escSeq
  split
  · rename_i e; rw [eq_of_beq e]
    exact Item.uni (a := 2) (b := 0) (c := 2) (d := 8) (by decide) (by decide) (by decide) (by decide)
  · split
    · rename_i e; rw [eq_of_beq e]
      exact Item.uni (a := 2) (b := 0) (c := 2) (d := 9) (by decide) (by decide) (by decide) (by decide)
    · exact .raw (fun x hx => by have := h x hx; omega)

/-- `src` is the part of `s` an item stands for: the decoded bytes, except where a byte that starts no valid
sequence became U+FFFD. -/
theorem esc_induct {P : Bytes → Bytes → Bytes → Prop} (nil : P [] [] [])
    (item : ∀ {src p d s e t}, Item p d → (src = d ∨ d = [0xEF, 0xBF, 0xBD]) → P s e t → P (src ++ s) (p ++ e) (d ++ t)) :
    ∀ s, P s (escBytes s) (sanitize s) := by
  intro s
  induction s using escBytes.induct with
  | case1 => rw [escBytes, sanitize]; exact nil
  | case2 b tl hb ih =>
    rw [escBytes, sanitize, if_pos hb, if_pos hb]
    exact item (src := [b]) (escAscii_item b hb) (.inl rfl) ih
  | case3 b tl hb n hz ih =>
    rw [escBytes, sanitize, if_neg hb, if_neg hb, if_pos hz, if_pos hz]
    exact item (src := [b]) fffd_item (.inr rfl) ih
  | case4 b tl hb n hz ih =>
    rw [escBytes, sanitize, if_neg hb, if_neg hb, if_neg hz, if_neg hz]
    -- the sequence and what follows it are `take n` and `drop n` of the same list
    obtain ⟨m, hm⟩ : ∃ m, n = m + 1 := ⟨_, (Nat.succ_pred_eq_of_ne_zero (by simpa using hz)).symm⟩
    have hd : List.drop (n - 1) tl = List.drop n (b :: tl) := by rw [hm]; rfl
    have := item (escSeq_item (utf8Len_high (b :: tl))) (.inl rfl) ih
    rw [hd, List.take_append_drop] at this
    rw [hd]; exact this

/-- one statement for two uses: no newline (`0x20 ≤ x`), and bytes below 256 if the string's are (`x < 0x80 ∨ x ∈ d`,
the second for a raw run) -/
theorem item_bytes {p d : Bytes} (h : Item p d) : ∀ x ∈ p, 0x20 ≤ x ∧ (x < 0x80 ∨ x ∈ d) := by
  cases h with
  | short _ _ h32 h128 =>
    simp only [List.forall_mem_cons]
    exact ⟨⟨by decide, .inl (by decide)⟩, ⟨Nat.le_of_lt h32, .inl h128⟩, nofun⟩
  | uni ha hb hc hd =>
    have hex {n : Nat} (l : Bytes) (h : n < 16) : 0x20 ≤ hexDigit n ∧ (hexDigit n < 0x80 ∨ hexDigit n ∈ l) :=
      ⟨(hexDigit_spec n h).2.1, .inl (hexDigit_spec n h).2.2.1⟩
    simp only [List.forall_mem_cons]
    exact ⟨⟨by decide, .inl (by decide)⟩, ⟨by decide, .inl (by decide)⟩, hex _ ha, hex _ hb, hex _ hc, hex _ hd, nofun⟩
  | raw hq => exact fun x hx => ⟨(hq x hx).1, .inr hx⟩

theorem escBytes_no_nl (s : Bytes) : 10 ∉ escBytes s :=
  esc_induct (P := fun _ e _ => 10 ∉ e) (by simp)
    (fun hi _ ih hm => (List.mem_append.mp hm).elim (fun h => absurd (item_bytes hi 10 h).1 (by decide)) ih) s

theorem pre_pre (a b : Bytes) (o : Option (Bytes × Bytes)) : pre a (pre b o) = pre (a ++ b) o := by
  cases o with
  | none => rfl
  | some x => simp [pre]

theorem read_raw (q : Bytes) (h : ∀ x ∈ q, 0x20 ≤ x ∧ x ≠ 34 ∧ x ≠ 92) (tail : Bytes) :
    readStr .normal (q ++ tail) = pre q (readStr .normal tail) := by
  induction q with
  | nil =>
    show readStr .normal tail = _
    cases readStr .normal tail with
    | none => rfl
    | some x => rfl
  | cons b bs ih =>
    obtain ⟨hb, ht⟩ := List.forall_mem_cons.mp h
    rw [List.cons_append, readStr, if_neg hb.2.1, if_neg hb.2.2, if_neg (Nat.not_lt.mpr hb.1), ih ht, pre_pre]; rfl

theorem readStr_hex {c v : Nat} (h : hexVal c = some v) (k acc : Nat) (r : Bytes) :
    readStr (.hex k acc) (c :: r) =
      if k = 1 then pre (utf8Enc (acc * 16 + v)) (readStr .normal r) else readStr (.hex (k - 1) (acc * 16 + v)) r := by
  rw [readStr, h]

theorem item_read {p d : Bytes} (h : Item p d) (tail : Bytes) :
    readStr .normal (p ++ tail) = pre d (readStr .normal tail) := by
  induction h with
  | short hc hu _ _ =>
    simp only [List.cons_append, List.nil_append]
    rw [readStr, if_neg (by decide), if_pos rfl, readStr, if_neg hu, hc]
  | uni ha hb hc hd =>
    -- `\`, `u`, then one step per digit; the `if k = 1` tests evaluate
    simp only [List.cons_append, List.nil_append]
    rw [readStr, if_neg (by decide), if_pos rfl, readStr, if_pos rfl,
      readStr_hex (hexDigit_spec _ ha).1, readStr_hex (hexDigit_spec _ hb).1, readStr_hex (hexDigit_spec _ hc).1,
      readStr_hex (hexDigit_spec _ hd).1, Nat.zero_mul, Nat.zero_add]
    rfl
  | raw hq => exact read_raw _ hq tail

theorem read_escBytes (s rest : Bytes) : readStr .normal (escBytes s ++ 34 :: rest) = some (sanitize s, rest) :=
  esc_induct (P := fun _ e t => readStr .normal (e ++ 34 :: rest) = some (t, rest)) (by simp [readStr])
    (fun hi _ ih => by rw [List.append_assoc, item_read hi, ih]; rfl) s

theorem read_quote (s rest : Bytes) : readStr .normal ((quote s).tail ++ rest) = some (sanitize s, rest) := by
  unfold quote
  simp only [List.cons_append, List.nil_append, List.tail_cons, List.append_assoc]
  exact read_escBytes s rest

theorem sanitize_ascii {s : Bytes} (h : ∀ b ∈ s, b < 0x80) : sanitize s = s := by
  induction s with
  | nil => simp [sanitize]
  | cons b tl ih =>
    obtain ⟨hb, ht⟩ := List.forall_mem_cons.mp h
    rw [sanitize]
    simp only [hb, if_true, ih ht]

theorem sanitize_ascii_inv (s : Bytes) : (∀ b ∈ sanitize s, b < 0x80) → sanitize s = s :=
  esc_induct (P := fun s _ t => (∀ b ∈ t, b < 0x80) → t = s) (fun _ => rfl)
    (fun _ hs ih h => by
      rcases hs with rfl | rfl
      · rw [ih (fun b hb => h b (List.mem_append_right _ hb))]
      · exact absurd (h 0xEF (by simp)) (by decide)) s

theorem numChar_ne {c x : Nat} (hc : isNumChar c = true) (hx : isNumChar x = false) : c ≠ x :=
  fun e => by rw [e, hx] at hc; cases hc

theorem wf_num {lit : Bytes} : wf (.num lit) = true ↔ lit ≠ [] ∧ lit.all isNumChar = true ∧ validNum lit = true := by
  simp only [wf, Bool.and_eq_true, Bool.not_eq_true', List.isEmpty_eq_false_iff, and_assoc]

end Evl.Json
