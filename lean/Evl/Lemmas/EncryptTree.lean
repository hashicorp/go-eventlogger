import Evl.Model.EncryptTree
import Evl.Lemmas.Encrypt
/-! M7t `EncryptTree`: every walk keeps the shape skeleton, and a *guarded* value comes out with nothing readable.
Of the model's fourteen mutually recursive walks six carry the recursion and share one mutual induction (`filtV_spec` …).
The other eight are one of these at the tag `mapTag` (`filtMapElem_eq` …), one of these stopped at a second pointer /
interface (`filtIface_some` …), or both, and what holds of them is a corollary; so it is of the payload's
`filtPayloadTarget` (`filtElemTarget` at `payloadTag`). -/
namespace Evl.EncryptTree
open Evl.Encrypt

/-- what C10 says is preserved of a string / []byte position -/
def skelLeaf : Leaf → Leaf
  | .nilBytes => .nilBytes
  | .other => .other
  | _ => .redacted

mutual
def skel : V → V
  | .leaf l => .leaf (skelLeaf l)
  | .leaves ls => .leaves (ls.map skelLeaf)
  | .nilPtr => .nilPtr
  | .ptr v => .ptr (skel v)
  | .iface v => .iface (skel v)
  | .struct fs => .struct (skelI fs)
  | .slice vs => .slice (skelI vs)
  | .map es => .map (skelI es)
def skelI : Items → Items
  | .nil => .nil
  | .cons h v rest => .cons h (skel v) (skelI rest)
end

mutual
def plains : V → List Nat
  | .leaf l => leafPlain l
  | .leaves ls => ls.flatMap leafPlain
  | .nilPtr => []
  | .ptr v => plains v
  | .iface v => plains v
  | .struct fs => plainsI fs
  | .slice vs => plainsI vs
  | .map es => plainsI es
def plainsI : Items → List Nat
  | .nil => []
  | .cons _ v rest => plains v ++ plainsI rest
end

def clean (v : V) : Bool := (plains v).isEmpty
def cleanLeaf (l : Leaf) : Bool := (leafPlain l).isEmpty

theorem clean_iff {v : V} : clean v = true ↔ plains v = [] := List.isEmpty_iff
theorem cleanLeaf_iff {l : Leaf} : cleanLeaf l = true ↔ leafPlain l = [] := List.isEmpty_iff

def protects (t : TagInfo) : Bool := action t != .keep

mutual
/-- *Guarded*: every string / []byte position of the value is reached addressably and under a
protecting tag (or holds nothing readable) — mirrors the traversal of `filtV`.
The clause of a string position is spelt `cleanLeaf l || (protects t && addr)` in every walk, with `&& true` where the
position is always settable, so that it is syntactically the premise of `filterStr_spec` at that `settable` and the
cases of the `_spec` theorems need no rewriting. -/
def guardedV (c : Ctx) (t : TagInfo) (addr : Bool) : V → Bool
  | .leaf l => cleanLeaf l || (protects t && addr)
  | .leaves ls => ls.all cleanLeaf || protects t
  | .nilPtr => true
  | .ptr v => guardedV c t true v
  | .iface v => guardedIface c t addr v
  | .struct fs => guardedFields c addr fs
  | .slice vs => guardedElems c t vs
  | .map es => guardedEntries c es
def guardedIface (c : Ctx) (t : TagInfo) (addr : Bool) : V → Bool
  | .ptr v => guardedV c t true v
  | .leaf l => cleanLeaf l || (protects t && addr)
  | .struct fs => guardedFields c addr fs
  | .leaves ls => ls.all cleanLeaf || protects t
  | .slice vs => guardedElems c t vs
  | .map es => guardedEntries c es
  | .nilPtr => true
  | .iface v => clean v
def guardedFields (c : Ctx) (addr : Bool) : Items → Bool
  | .nil => true
  | .cons (.field ex tag) v rest =>
    (if !ex then clean v else guardedV c (fromTag tag c.ov) addr v) && guardedFields c addr rest
  | .cons .elem v rest => clean v && guardedFields c addr rest
  | .cons (.key _) v rest => clean v && guardedFields c addr rest
def guardedElems (c : Ctx) (t : TagInfo) : Items → Bool
  | .nil => true
  | .cons _ v rest => guardedElem c t v && guardedElems c t rest
def guardedElem (c : Ctx) (t : TagInfo) : V → Bool
  | .ptr w => guardedElemTarget c t w
  | .struct fs => guardedFields c true fs
  | .map es => guardedEntries c es
  | .slice vs => guardedElems c t vs
  | .leaf l => cleanLeaf l || (protects t && true)
  | .leaves ls => ls.all cleanLeaf || protects t
  | .nilPtr => true
  | .iface v => guardedElemIface c t v
def guardedElemIface (c : Ctx) (t : TagInfo) : V → Bool
  | .ptr w => guardedElemTarget c t w
  | .struct fs => guardedFields c true fs
  | .map es => guardedEntries c es
  | .slice vs => guardedElems c t vs
  | .leaf l => cleanLeaf l || (protects t && true)
  | .leaves ls => ls.all cleanLeaf || protects t
  | .nilPtr => true
  | .iface v => clean v
def guardedElemTarget (c : Ctx) (t : TagInfo) : V → Bool
  | .struct fs => guardedFields c true fs
  | .map es => guardedEntries c es
  | .slice vs => guardedElems c t vs
  | .leaf l => cleanLeaf l || (protects t && true)
  | .leaves ls => ls.all cleanLeaf || protects t
  | .nilPtr => true
  | .ptr v => clean v
  | .iface v => clean v
def guardedEntries (c : Ctx) : Items → Bool
  | .nil => true
  | .cons _ v rest => guardedEntry c v && guardedEntries c rest
def guardedEntry (c : Ctx) : V → Bool
  | .leaf _ => true                     -- unclassified: always redacted
  | .leaves _ => true
  | .struct fs => guardedFields c true fs
  | .map es => guardedEntries c es
  | .slice vs => guardedMapSlice c vs
  | .ptr w => guardedEntryTarget c w
  | .iface v => guardedEntry c v
  | .nilPtr => true
def guardedEntryTarget (c : Ctx) : V → Bool
  | .struct fs => guardedFields c true fs
  | .leaf _ => true
  | .map es => guardedEntries c es
  | .leaves _ => true
  | .slice vs => guardedMapSlice c vs
  | .nilPtr => true
  | .ptr v => clean v
  | .iface v => clean v
def guardedMapSlice (c : Ctx) : Items → Bool
  | .nil => true
  | .cons _ v rest => guardedMapElem c v && guardedMapSlice c rest
def guardedMapElem (c : Ctx) : V → Bool
  | .struct fs => guardedFields c true fs
  | .ptr w => guardedMapElemPtr c w
  | .iface w => guardedMapElemIface c w
  | .map es => guardedEntries c es
  | .slice vs => guardedElems c mapTag vs
  | .leaf l => cleanLeaf l || (protects mapTag && true)
  | .leaves ls => ls.all cleanLeaf || protects mapTag
  | .nilPtr => true
def guardedMapElemPtr (c : Ctx) : V → Bool
  | .struct fs => guardedFields c true fs
  | .leaf l => cleanLeaf l || (protects mapTag && true)
  | .leaves ls => ls.all cleanLeaf || protects mapTag
  | .slice vs => guardedElems c mapTag vs
  | .map es => guardedEntries c es
  | .nilPtr => true
  | .ptr v => clean v
  | .iface v => clean v
def guardedMapElemIface (c : Ctx) : V → Bool
  | .struct fs => guardedFields c true fs
  | .ptr w => guardedMapElemPtr c w
  | .map es => guardedEntries c es
  | .leaf l => cleanLeaf l || (protects mapTag && true)
  | .leaves ls => ls.all cleanLeaf || protects mapTag
  | .slice vs => guardedElems c mapTag vs
  | .nilPtr => true
  | .iface v => clean v
end

theorem items_induct {motive : Items → Prop} (nil : motive .nil)
    (cons : ∀ h v rest, motive rest → motive (.cons h v rest)) : (es : Items) → motive es
  | .nil => nil
  | .cons h v rest => cons h v rest (items_induct nil cons rest)

theorem filterLeaf_spec {k : Keys} {ek : Option EventKeys} {a : Action} {m : Nat} {l : Leaf}
    (h : filterLeaf k ek a m = some l) : skelLeaf l = .redacted ∧ (a ≠ .keep → leafPlain l = []) := by
  rcases filterLeaf_cases h with ⟨ha, rfl⟩ | rfl | ⟨_, rfl⟩ | ⟨_, _, _, rfl⟩
  · exact ⟨rfl, fun hk => absurd ha hk⟩
  all_goals exact ⟨rfl, fun _ => rfl⟩

theorem filterStr_spec {c : Ctx} {t : TagInfo} {s : Bool} {l l' : Leaf} (h : filterStr c (action t) s l = some l') :
    skelLeaf l' = skelLeaf l ∧ ((cleanLeaf l || (protects t && s)) = true → leafPlain l' = []) := by
  cases l with
  | plain m =>
    simp only [filterStr] at h
    by_cases hk : action t = .keep
    · rw [if_pos hk] at h
      cases h
      exact ⟨rfl, fun g => by rw [protects, hk] at g; cases g⟩
    · rw [if_neg hk] at h
      cases s with
      | false => cases h; exact ⟨rfl, fun g => by rw [Bool.and_false] at g; cases g⟩
      | true => exact ⟨(filterLeaf_spec h).1, fun _ => (filterLeaf_spec h).2 hk⟩
  | _ => cases h; exact ⟨rfl, fun _ => rfl⟩

theorem filterStrs_spec {c : Ctx} {t : TagInfo} {ls ls' : List Leaf} (h : filterStrs c t ls = some ls') :
    ls'.map skelLeaf = ls.map skelLeaf ∧ ((ls.all cleanLeaf || protects t) = true → ls'.flatMap leafPlain = []) := by
  unfold filterStrs at h
  split at h
  · rename_i hp
    cases h
    refine ⟨rfl, fun g => List.flatMap_eq_nil_iff.mpr fun x hx => cleanLeaf_iff.mp ?_⟩
    exact List.all_eq_true.mp (by simpa [protects, action_pub hp] using g) x hx
  · obtain ⟨hlen, hall⟩ := mapM_some h
    refine ⟨List.ext_getElem (by simp only [List.length_map, hlen]) fun i h1 h2 => ?_,
      fun g => List.flatMap_eq_nil_iff.mpr fun y hy => ?_⟩
    · simp only [List.getElem_map]
      exact (filterStr_spec (hall i _ _)).1
    · obtain ⟨i, hi, rfl⟩ := List.getElem_of_mem hy
      refine (filterStr_spec (hall i (hlen ▸ hi) hi)).2 ?_
      rcases Bool.or_eq_true_iff.mp g with g | g
      · simp only [List.all_eq_true.mp g _ (List.getElem_mem _), Bool.true_or]
      · simp only [g, Bool.and_self, Bool.or_true]

theorem filtMapElemPtr_eq (c : Ctx) (v : V) : filtMapElemPtr c v = filtElemTarget c mapTag v := by
  cases v <;> rfl

theorem filtMapElemIface_eq (c : Ctx) (v : V) : filtMapElemIface c v = filtElemIface c mapTag v := by
  cases v with
  | ptr w => exact congrArg (Option.map V.ptr) (filtMapElemPtr_eq c w)
  | _ => rfl

theorem filtMapElem_eq (c : Ctx) (v : V) : filtMapElem c v = filtElem c mapTag v := by
  cases v with
  | ptr w => exact congrArg (Option.map V.ptr) (filtMapElemPtr_eq c w)
  | iface w => exact congrArg (Option.map V.iface) (filtMapElemIface_eq c w)
  | _ => rfl

theorem filtMapSlice_eq (c : Ctx) : (vs : Items) → filtMapSlice c vs = filtElems c mapTag vs
  | .nil => rfl
  | .cons _ _ r => by simp only [filtMapSlice, filtElems, filtMapElem_eq, filtMapSlice_eq c r]

theorem filtEntryTarget_eq (c : Ctx) (v : V) : filtEntryTarget c v = filtElemTarget c mapTag v := by
  cases v with
  | slice vs => exact congrArg (Option.map V.slice) (filtMapSlice_eq c vs)
  | _ => rfl

theorem guardedMapElemPtr_eq (c : Ctx) (v : V) : guardedMapElemPtr c v = guardedElemTarget c mapTag v := by
  cases v <;> rfl

theorem guardedMapElemIface_eq (c : Ctx) (v : V) : guardedMapElemIface c v = guardedElemIface c mapTag v := by
  cases v with
  | ptr w => exact guardedMapElemPtr_eq c w
  | _ => rfl

theorem guardedMapElem_eq (c : Ctx) (v : V) : guardedMapElem c v = guardedElem c mapTag v := by
  cases v with
  | ptr w => exact guardedMapElemPtr_eq c w
  | iface w => exact guardedMapElemIface_eq c w
  | _ => rfl

theorem guardedMapSlice_eq (c : Ctx) : (vs : Items) → guardedMapSlice c vs = guardedElems c mapTag vs
  | .nil => rfl
  | .cons _ _ r => by simp only [guardedMapSlice, guardedElems, guardedMapElem_eq, guardedMapSlice_eq c r]

theorem protects_mapTag : protects mapTag = true := by decide

theorem guardedEntryTarget_eq (c : Ctx) (v : V) : guardedEntryTarget c v = guardedElemTarget c mapTag v := by
  cases v with
  | leaf _ | leaves _ => exact (Bool.or_true _).symm
  | slice vs => exact guardedMapSlice_eq c vs
  | _ => rfl

theorem filtIface_some {c : Ctx} {t : TagInfo} {a : Bool} {v w : V} (h : filtIface c t a v = some w) :
    (filtV c t a v = some w ∧ guardedIface c t a v = guardedV c t a v) ∨ (w = v ∧ guardedIface c t a v = clean v) := by
  cases v with
  | iface x => exact .inr ⟨(Option.some.inj h).symm, rfl⟩
  | _ => exact .inl ⟨h, rfl⟩

theorem filtElemIface_some {c : Ctx} {t : TagInfo} {v w : V} (h : filtElemIface c t v = some w) :
    (filtElem c t v = some w ∧ guardedElemIface c t v = guardedElem c t v) ∨ (w = v ∧ guardedElemIface c t v = clean v) := by
  cases v with
  | iface x => exact .inr ⟨(Option.some.inj h).symm, rfl⟩
  | _ => exact .inl ⟨h, rfl⟩

theorem filtElemTarget_some {c : Ctx} {t : TagInfo} {v w : V} (h : filtElemTarget c t v = some w) :
    (filtElem c t v = some w ∧ guardedElemTarget c t v = guardedElem c t v) ∨ (w = v ∧ guardedElemTarget c t v = clean v) := by
  cases v with
  | iface _ | ptr _ => exact .inr ⟨(Option.some.inj h).symm, rfl⟩
  | _ => exact .inl ⟨h, rfl⟩

/-- every walk maps a constructor to the same constructor of the walked child, so what is known of the
child's shape and readable content goes through the node.
`sk` / `pl` are read off `ih` when it is a lemma applied to what it is about (`filtV_spec c t true v`, `fun _ =>
filterStr_spec`).  When `ih` is a λ whose body still has implicit values of its own to take from the expected type
(`fun w hw => spec_of_some …`) give them: the unifier meets `?sk w =?= skel ?w'` with both sides open and settles for a
constant `?sk`, after which `hs` / `hp` fail. -/
theorem node {α : Type} {C : α → V} {sk : α → α} {pl : α → List Nat} {o : Option α} {x : α} {v' : V} {G : Prop}
    (h : o.map C = some v') (ih : ∀ w, o = some w → sk w = sk x ∧ (G → pl w = []))
    (hs : ∀ x, skel (C x) = C (sk x) := by exact fun _ => rfl) (hp : ∀ x, plains (C x) = pl x := by exact fun _ => rfl) :
    skel v' = skel (C x) ∧ (G → plains v' = []) := by
  obtain ⟨w, hw, rfl⟩ := Option.map_eq_some_iff.mp h
  rw [hs, hs, hp, (ih w hw).1]
  exact ⟨rfl, (ih w hw).2⟩

theorem cons_spec {hd : Hdr} {v v' : V} {r r' : Items} {G G1 G2 : Prop}
    (h1 : skel v' = skel v ∧ (G1 → plains v' = [])) (h2 : skelI r' = skelI r ∧ (G2 → plainsI r' = []))
    (hg : G → G1 ∧ G2) :
    skelI (.cons hd v' r') = skelI (.cons hd v r) ∧ (G → plainsI (.cons hd v' r') = []) :=
  ⟨by simp only [skelI, h1.1, h2.1], fun g => by simp only [plainsI, h1.2 (hg g).1, h2.2 (hg g).2, List.append_nil]⟩

/-- stated with the very `match` of the list walks, so that `h : walk (.cons hd v rest) = some r` fits as it is (in
`filtFields` the `if !true then … else match …` in front reduces to the `match` by `whnf`) -/
theorem cons_some {o1 : Option V} {o2 : Option Items} {hd : Hdr} {r : Items}
    (h : (match o1, o2 with | some v', some rs => some (Items.cons hd v' rs) | _, _ => none) = some r) :
    ∃ v' rs, o1 = some v' ∧ o2 = some rs ∧ r = .cons hd v' rs := by
  cases o1 with
  | none => cases h
  | some a => cases o2 with
    | none => cases h
    | some b => exact ⟨a, b, rfl, rfl, (Option.some.inj h).symm⟩

/-- a walk that may stop early (`filtIface_some` …) inherits what holds of the walk it stops -/
theorem spec_of_some {o : Option V} {G G' : Bool} {v w : V} (hc : (o = some w ∧ G' = G) ∨ (w = v ∧ G' = clean v))
    (ih : o = some w → skel w = skel v ∧ (G = true → plains w = [])) :
    skel w = skel v ∧ (G' = true → plains w = []) := by
  rcases hc with ⟨h, rfl⟩ | ⟨rfl, rfl⟩
  · exact ih h
  · exact ⟨rfl, clean_iff.mp⟩

mutual
/-- C10 reads off the first half, C09 the second.
The patterns are on the walked value alone and `v'`, `h` come in by `fun`: a `match` on all three is slow to elaborate. -/
theorem filtV_spec (c : Ctx) (t : TagInfo) (a : Bool) : (v v' : V) → filtV c t a v = some v' →
    skel v' = skel v ∧ (guardedV c t a v = true → plains v' = [])
  | .leaf _ => fun _ h => node h fun _ => filterStr_spec
  | .leaves _ => fun _ h => node h fun _ => filterStrs_spec
  | .nilPtr => fun _ h => by cases h; exact ⟨rfl, fun _ => rfl⟩
  | .ptr v => fun _ h => node h (filtV_spec c t true v)
  | .iface v => fun _ h => node (sk := skel) (pl := plains) h fun w hw =>
    spec_of_some (filtIface_some hw) (filtV_spec c t a v w)
  | .struct fs => fun _ h => node h (filtFields_spec c a fs)
  | .slice vs => fun _ h => node h (filtElems_spec c t vs)
  | .map es => fun _ h => node h (filtEntries_spec c es)

theorem filtFields_spec (c : Ctx) (a : Bool) : (fs fs' : Items) → filtFields c a fs = some fs' →
    skelI fs' = skelI fs ∧ (guardedFields c a fs = true → plainsI fs' = [])
  | .nil => fun fs' h => by
    cases h; exact ⟨rfl, fun _ => rfl⟩
  | .cons (.field true tag) v rest => fun fs' h => by
    obtain ⟨v', r, hv, hr, rfl⟩ := cons_some h
    exact cons_spec (filtV_spec c _ a v v' hv) (filtFields_spec c a rest r hr) (Bool.and_eq_true _ _).mp
  | .cons (.field false _) v rest | .cons .elem v rest | .cons (.key _) v rest => fun fs' h => by
    obtain ⟨r, hr, rfl⟩ := Option.map_eq_some_iff.mp h
    exact cons_spec ⟨rfl, clean_iff.mp⟩ (filtFields_spec c a rest r hr) (Bool.and_eq_true _ _).mp

theorem filtElems_spec (c : Ctx) (t : TagInfo) : (vs vs' : Items) → filtElems c t vs = some vs' →
    skelI vs' = skelI vs ∧ (guardedElems c t vs = true → plainsI vs' = [])
  | .nil => fun vs' h => by
    cases h; exact ⟨rfl, fun _ => rfl⟩
  | .cons hd v rest => fun vs' h => by
    obtain ⟨v', r, hv, hr, rfl⟩ := cons_some h
    exact cons_spec (filtElem_spec c t v v' hv) (filtElems_spec c t rest r hr) (Bool.and_eq_true _ _).mp

theorem filtElem_spec (c : Ctx) (t : TagInfo) : (v v' : V) → filtElem c t v = some v' →
    skel v' = skel v ∧ (guardedElem c t v = true → plains v' = [])
  | .ptr v => fun _ h => node (sk := skel) (pl := plains) h fun w hw =>
    spec_of_some (filtElemTarget_some hw) (filtElem_spec c t v w)
  | .struct fs => fun _ h => node h (filtFields_spec c true fs)
  | .map es => fun _ h => node h (filtEntries_spec c es)
  | .slice vs => fun _ h => node h (filtElems_spec c t vs)
  | .leaf _ => fun _ h => node h fun _ => filterStr_spec
  | .leaves _ => fun _ h => node h fun _ => filterStrs_spec
  | .nilPtr => fun _ h => by cases h; exact ⟨rfl, fun _ => rfl⟩
  | .iface v => fun _ h => node (sk := skel) (pl := plains) h fun w hw =>
    spec_of_some (filtElemIface_some hw) (filtElem_spec c t v w)

theorem filtEntries_spec (c : Ctx) : (es es' : Items) → filtEntries c es = some es' →
    skelI es' = skelI es ∧ (guardedEntries c es = true → plainsI es' = [])
  | .nil => fun es' h => by
    cases h; exact ⟨rfl, fun _ => rfl⟩
  | .cons hd v rest => fun es' h => by
    obtain ⟨v', r, hv, hr, rfl⟩ := cons_some h
    exact cons_spec (filtEntry_spec c v v' hv) (filtEntries_spec c rest r hr) (Bool.and_eq_true _ _).mp

theorem filtEntry_spec (c : Ctx) : (v v' : V) → filtEntry c v = some v' →
    skel v' = skel v ∧ (guardedEntry c v = true → plains v' = [])
  | .leaf _ => fun _ h => node h fun _ hl =>
    (filterStr_spec hl).imp_right fun k _ => k (by simp only [protects_mapTag, Bool.and_self, Bool.or_true])
  | .leaves _ => fun _ h => node h fun _ hl =>
    (filterStrs_spec hl).imp_right fun k _ => k (by simp only [protects_mapTag, Bool.or_true])
  | .struct fs => fun _ h => node h (filtFields_spec c true fs)
  | .map es => fun _ h => node h (filtEntries_spec c es)
  | .slice vs => fun _ h => node h fun w hw =>
    guardedMapSlice_eq c vs ▸ filtElems_spec c mapTag vs w (filtMapSlice_eq c vs ▸ hw)
  | .ptr v => fun _ h => node (G := guardedEntryTarget c v = true) (sk := skel) (pl := plains) h fun w hw =>
    guardedEntryTarget_eq c v ▸
      spec_of_some (filtElemTarget_some (filtEntryTarget_eq c v ▸ hw)) (filtElem_spec c mapTag v w)
  | .iface v => fun _ h => node h (filtEntry_spec c v)
  | .nilPtr => fun _ h => by cases h; exact ⟨rfl, fun _ => rfl⟩
end

theorem filtIface_spec (c : Ctx) (t : TagInfo) (a : Bool) (v v' : V) (h : filtIface c t a v = some v') :
    skel v' = skel v ∧ (guardedIface c t a v = true → plains v' = []) :=
  spec_of_some (filtIface_some h) (filtV_spec c t a v v')

theorem filtElemIface_spec (c : Ctx) (t : TagInfo) (v v' : V) (h : filtElemIface c t v = some v') :
    skel v' = skel v ∧ (guardedElemIface c t v = true → plains v' = []) :=
  spec_of_some (filtElemIface_some h) (filtElem_spec c t v v')

theorem filtElemTarget_spec (c : Ctx) (t : TagInfo) (v v' : V) (h : filtElemTarget c t v = some v') :
    skel v' = skel v ∧ (guardedElemTarget c t v = true → plains v' = []) :=
  spec_of_some (filtElemTarget_some h) (filtElem_spec c t v v')

theorem filtEntryTarget_spec (c : Ctx) (v v' : V) (h : filtEntryTarget c v = some v') :
    skel v' = skel v ∧ (guardedEntryTarget c v = true → plains v' = []) :=
  guardedEntryTarget_eq c v ▸ filtElemTarget_spec c mapTag v v' (filtEntryTarget_eq c v ▸ h)

theorem filtV_skel (c : Ctx) (t : TagInfo) (a : Bool) : (v v' : V) → filtV c t a v = some v' → skel v' = skel v :=
  fun v v' h => (filtV_spec c t a v v' h).1

theorem filtIface_skel (c : Ctx) (t : TagInfo) (a : Bool) : (v v' : V) → filtIface c t a v = some v' → skel v' = skel v :=
  fun v v' h => (filtIface_spec c t a v v' h).1

theorem filtElem_skel (c : Ctx) (t : TagInfo) : (v v' : V) → filtElem c t v = some v' → skel v' = skel v :=
  fun v v' h => (filtElem_spec c t v v' h).1

theorem filtElemIface_skel (c : Ctx) (t : TagInfo) : (v v' : V) → filtElemIface c t v = some v' → skel v' = skel v :=
  fun v v' h => (filtElemIface_spec c t v v' h).1

theorem filtElemTarget_skel (c : Ctx) (t : TagInfo) : (v v' : V) → filtElemTarget c t v = some v' → skel v' = skel v :=
  fun v v' h => (filtElemTarget_spec c t v v' h).1

theorem filtMapElem_skel (c : Ctx) : (v v' : V) → filtMapElem c v = some v' → skel v' = skel v :=
  fun v v' h => (filtElem_spec c mapTag v v' (filtMapElem_eq c v ▸ h)).1

theorem filtMapElemPtr_skel (c : Ctx) : (v v' : V) → filtMapElemPtr c v = some v' → skel v' = skel v :=
  fun v v' h => (filtElemTarget_spec c mapTag v v' (filtMapElemPtr_eq c v ▸ h)).1

theorem filtMapElemIface_skel (c : Ctx) : (v v' : V) → filtMapElemIface c v = some v' → skel v' = skel v :=
  fun v v' h => (filtElemIface_spec c mapTag v v' (filtMapElemIface_eq c v ▸ h)).1

theorem filtV_clean (c : Ctx) (t : TagInfo) (a : Bool) : (v v' : V) → filtV c t a v = some v' → guardedV c t a v = true → plains v' = [] :=
  fun v v' h => (filtV_spec c t a v v' h).2

theorem filtIface_clean (c : Ctx) (t : TagInfo) (a : Bool) : (v v' : V) → filtIface c t a v = some v' → guardedIface c t a v = true → plains v' = [] :=
  fun v v' h => (filtIface_spec c t a v v' h).2

theorem filtElem_clean (c : Ctx) (t : TagInfo) : (v v' : V) → filtElem c t v = some v' → guardedElem c t v = true → plains v' = [] :=
  fun v v' h => (filtElem_spec c t v v' h).2

theorem filtElemIface_clean (c : Ctx) (t : TagInfo) : (v v' : V) → filtElemIface c t v = some v' → guardedElemIface c t v = true → plains v' = [] :=
  fun v v' h => (filtElemIface_spec c t v v' h).2

theorem filtElemTarget_clean (c : Ctx) (t : TagInfo) : (v v' : V) → filtElemTarget c t v = some v' → guardedElemTarget c t v = true → plains v' = [] :=
  fun v v' h => (filtElemTarget_spec c t v v' h).2

theorem filtMapElem_clean (c : Ctx) : (v v' : V) → filtMapElem c v = some v' → guardedMapElem c v = true → plains v' = [] :=
  fun v v' h g => (filtElem_spec c mapTag v v' (filtMapElem_eq c v ▸ h)).2 (guardedMapElem_eq c v ▸ g)

theorem filtMapElemPtr_clean (c : Ctx) : (v v' : V) → filtMapElemPtr c v = some v' → guardedMapElemPtr c v = true → plains v' = [] :=
  fun v v' h g => (filtElemTarget_spec c mapTag v v' (filtMapElemPtr_eq c v ▸ h)).2 (guardedMapElemPtr_eq c v ▸ g)

theorem filtMapElemIface_clean (c : Ctx) : (v v' : V) → filtMapElemIface c v = some v' → guardedMapElemIface c v = true → plains v' = [] :=
  fun v v' h g => (filtElemIface_spec c mapTag v v' (filtMapElemIface_eq c v ▸ h)).2 (guardedMapElemIface_eq c v ▸ g)

def guardedTarget (c : Ctx) : V → Bool
  | .leaf l => cleanLeaf l || protects (payloadTag c)
  | .leaves ls => ls.all cleanLeaf || protects (payloadTag c)
  | .struct fs => guardedFields c true fs
  | .slice vs => guardedElems c (payloadTag c) vs
  | .map es => guardedEntries c es
  | .nilPtr => true
  | .ptr v => clean v
  | .iface v => clean v

/-- the premise of `C09.tree_noleak`.  A struct passed by value (`guardedFields c false`) is guarded only if it holds
nothing to protect: known finding F6c lies outside the guard. -/
def guardedPayload (c : Ctx) : V → Bool
  | .ptr w => guardedTarget c w
  | .leaf _ => true
  | .leaves ls => ls.all cleanLeaf || protects (payloadTag c)
  | .struct fs => guardedFields c false fs
  | .slice vs => guardedElems c (payloadTag c) vs
  | .map es => guardedEntries c es
  | .nilPtr => true
  | .iface v => clean v

theorem filtPayloadTarget_eq (c : Ctx) (v : V) : filtPayloadTarget c v = filtElemTarget c (payloadTag c) v := by
  cases v <;> rfl

theorem guardedTarget_eq (c : Ctx) (v : V) : guardedTarget c v = guardedElemTarget c (payloadTag c) v := by
  cases v with
  | leaf l => exact congrArg (or (cleanLeaf l)) (Bool.and_true _).symm
  | _ => rfl

theorem filtPayload_spec (c : Ctx) (v v' : V) (h : filtPayload c v = some v') :
    skel v' = skel v ∧ (guardedPayload c v = true → plains v' = []) := by
  cases v with
  | ptr w => exact node (G := guardedTarget c w = true) (sk := skel) (pl := plains) h fun x hx =>
      guardedTarget_eq c w ▸ filtElemTarget_spec c (payloadTag c) w x (filtPayloadTarget_eq c w ▸ hx)
  | leaf l =>
    by_cases hl : (leafPlain l).isEmpty = true
    · cases (if_pos hl).symm.trans h
      exact ⟨rfl, fun _ => List.isEmpty_iff.mp hl⟩
    · cases (if_neg hl).symm.trans h
  | iface v => cases h; exact ⟨rfl, clean_iff.mp⟩
  -- every other shape is walked, and guarded, as a field under `payloadTag` that is not addressable
  | leaves _ | struct _ | slice _ | map _ | nilPtr => exact filtV_spec c (payloadTag c) false _ v' h

theorem process_filtered {c : Ctx} {ewi : Bool} {v v' : V} (h : process c ewi v = .filtered v') :
    filtPayload c v = some v' := by
  have h := of_ite_eq (of_ite_eq (of_ite_eq h nofun) nofun) nofun
  split at h
  · cases h; assumption
  · cases h

end Evl.EncryptTree
