import Evl.Lemmas.Gated
/-! The per-id queue specification of the gate, and the lemmas that relate M6 `Gated` to it.  A list of actions that
the specification can run (`specRun … = some _`) is a history in which every composition received exactly the events
of one id received since the id's group was opened, in arrival order, each once. -/
namespace Evl.Gated

abbrev Spec := Nat → List Nat

inductive Act
  | arrive (id uid : Nat)
  | release (id : Nat) (evs : List Nat)
  deriving DecidableEq, Repr, Inhabited

def specStep (p : Spec) : Act → Option Spec
  | .arrive id uid => some (fun j => if j = id then p j ++ [uid] else p j)
  | .release id evs => if p id = evs ∧ evs ≠ [] then some (fun j => if j = id then [] else p j) else none

def specRun : Spec → List Act → Option Spec
  | p, [] => some p
  | p, a :: rest => match specStep p a with
    | some p' => specRun p' rest
    | none => none

theorem specRun_append (p : Spec) (a b : List Act) :
    specRun p (a ++ b) = (specRun p a).bind (fun q => specRun q b) := by
  induction a generalizing p with
  | nil => rfl
  | cons x rest ih =>
    simp only [List.cons_append, specRun]
    cases specStep p x with
    | none => rfl
    | some q => exact ih q

/-- the abstraction map, gate to specification state -/
def pend (gs : List Group) (j : Nat) : List Nat := (gs.filter (fun g => g.id == j)).flatMap (·.evs)

/-- one group per id, none empty: what `w.gated` (a map) and `addEvent` guarantee of the gate -/
structure Wf (gs : List Group) : Prop where
  nodup : (gs.map (·.id)).Nodup
  nonempty : ∀ g ∈ gs, g.evs ≠ []

theorem wf_nil : Wf [] := ⟨.nil, nofun⟩

theorem Wf.sublist {gs r : List Group} (h : Wf gs) (hs : r.Sublist gs) : Wf r :=
  ⟨h.nodup.sublist (hs.map _), fun g hg => h.nonempty g (hs.subset hg)⟩

@[simp] theorem pend_nil (j : Nat) : pend [] j = [] := rfl

theorem pend_append (a b : List Group) (j : Nat) : pend (a ++ b) j = pend a j ++ pend b j := by
  simp [pend, List.filter_append, List.flatMap_append]

theorem pend_cons (g : Group) (gs : List Group) (j : Nat) :
    pend (g :: gs) j = (if j = g.id then g.evs else []) ++ pend gs j := by
  unfold pend
  by_cases h : j = g.id
  · simp [h]
  · simp [h, Ne.symm h]

theorem pend_not_mem {gs : List Group} {j : Nat} (h : j ∉ gs.map (·.id)) : pend gs j = [] := by
  induction gs with
  | nil => rfl
  | cons g rest ih =>
    rw [List.map_cons, List.mem_cons, not_or] at h
    rw [pend_cons, ih h.2, if_neg h.1]; rfl

theorem pend_remove {pre rest : List Group} {g : Group} (h : Wf (pre ++ g :: rest)) :
    pend (pre ++ g :: rest) g.id = g.evs ∧ g.evs ≠ [] ∧
    (fun j => if j = g.id then [] else pend (pre ++ g :: rest) j) = pend (pre ++ rest) := by
  have hnd := h.nodup
  rw [List.map_append, List.map_cons] at hnd
  obtain ⟨_, hgr, hdisj⟩ := List.nodup_append.mp hnd
  have hpre : pend pre g.id = [] := pend_not_mem fun hm => hdisj _ hm _ List.mem_cons_self rfl
  have hrest : pend rest g.id = [] := pend_not_mem (List.nodup_cons.mp hgr).1
  refine ⟨?_, h.nonempty g (List.mem_append_right _ List.mem_cons_self), funext fun j => ?_⟩
  · rw [pend_append, pend_cons, hpre, hrest, if_pos rfl, List.append_nil]; rfl
  · by_cases hj : j = g.id
    · rw [if_pos hj, hj, pend_append, hpre, hrest]; rfl
    · rw [if_neg hj, pend_append, pend_append, pend_cons, if_neg hj]; rfl

def relOf (e : Emit) : Act := .release e.id e.evs

/-- `openAll_refines`, `openExpired_refines` and `C11.grouping_step` say this written out. -/
def Refines (gs : List Group) (as : List Act) (gs' : List Group) : Prop :=
  Wf gs → specRun (pend gs) as = some (pend gs') ∧ Wf gs'

theorem Refines.step {a b : List Group} {x : Act} (h : Wf a → specStep (pend a) x = some (pend b) ∧ Wf b) :
    Refines a [x] b :=
  fun hw => (h hw).imp_left fun e => by rw [specRun, e]; rfl

theorem Refines.trans {a b c : List Group} {x y : List Act} (h1 : Refines a x b) (h2 : Refines b y c) :
    Refines a (x ++ y) c := fun hw => by
  obtain ⟨e, hb⟩ := h1 hw
  rw [specRun_append, e]
  exact h2 hb

theorem spec_release {pre rest : List Group} {g : Group} (h : Wf (pre ++ g :: rest)) :
    specStep (pend (pre ++ g :: rest)) (.release g.id g.evs) = some (pend (pre ++ rest)) ∧ Wf (pre ++ rest) := by
  obtain ⟨h1, h2, h3⟩ := pend_remove h
  refine ⟨?_, h.sublist ((List.sublist_cons_self ..).append_left _)⟩
  rw [specStep, if_pos ⟨h1, h2⟩, h3]

/-- `pre` is what the walk has passed and kept: `Wf` and `pend` speak about the whole gate, the induction about
its suffix.  The gate that failed to open is a `release` like those that opened. -/
theorem Sweep.refines {x : Fate} {p : Group → Bool} {gs r : List Group} {es : List Emit} {ok : Bool}
    (h : Sweep x p gs r es ok) : ∀ pre, Refines (pre ++ gs) (es.map relOf) (pre ++ r) := by
  induction h with
  | nil => exact fun pre hw => ⟨rfl, hw⟩
  | @keep g gs r es ok _ _ ih =>
    intro pre
    have := ih (pre ++ [g])
    rwa [List.append_assoc, List.append_assoc] at this
  | opened _ _ ih => exact fun pre => .trans (.step spec_release) (ih pre)
  | failed _ _ => exact fun pre => .step spec_release

theorem openExpired_refines (c : Cfg) (f : Fail) (now : Int) (gs : List Group) :
    ∀ pre, Wf (pre ++ gs) →
      specRun (pend (pre ++ gs)) ((openExpired c f now gs).2.1.map relOf) =
        some (pend (pre ++ (openExpired c f now gs).1)) ∧
      Wf (pre ++ (openExpired c f now gs).1) :=
  (openExpired_sweep c f now gs).refines

theorem openAll_refines (c : Cfg) (f : Fail) (gs : List Group) :
    Wf gs →
      specRun (pend gs) ((openAll c f gs).2.1.map relOf) = some (pend (openAll c f gs).1) ∧
      Wf (openAll c f gs).1 :=
  (openAll_sweep c f gs).refines []

theorem dropAll_refines (gs : List Group) :
    Wf gs → specRun (pend gs) (gs.map (fun g => Act.release g.id g.evs)) = some (pend []) := fun hw => by
  -- `relOf` forgets the fate: any will do
  have := ((Sweep.selectAll .sent gs).refines [] hw).1
  rwa [List.map_map] at this

theorem addEvent_refines (gs : List Group) (id uid : Nat) (exp : Int) (h : Wf gs) :
    pend (addEvent gs id uid exp) = (fun j => if j = id then pend gs j ++ [uid] else pend gs j) ∧
    Wf (addEvent gs id uid exp) := by
  have hne : ∀ g ∈ addEvent gs id uid exp, g.evs ≠ [] :=
    addEvent_forall h.nonempty (List.cons_ne_nil _ _) fun g _ => List.append_ne_nil_of_right_ne_nil _ (List.cons_ne_nil _ _)
  rcases addEvent_split gs id uid exp with ⟨hn, e⟩ | ⟨pre, g, post, hn, rfl, rfl, e⟩
  · rw [e] at hne ⊢
    refine ⟨funext fun j => ?_, ?_, hne⟩
    · rw [pend_append, pend_cons, pend_nil, List.append_nil]
      by_cases hj : j = id
      · rw [if_pos hj, if_pos hj]
      · rw [if_neg hj, if_neg hj, List.append_nil]
    · rw [List.map_append]
      exact List.nodup_append.mpr ⟨h.nodup, (List.pairwise_singleton ..), fun a ha b hb e => by
        obtain ⟨x, hx, rfl⟩ := List.mem_map.mp ha
        exact hn x hx (e.trans (List.mem_singleton.mp hb))⟩
  · rw [e] at hne ⊢
    -- the id is unchanged: before and after, the group is the one group of its id
    have hw : Wf (pre ++ { g with evs := g.evs ++ [uid] } :: post) := ⟨by simpa using h.nodup, hne⟩
    obtain ⟨a1, _, a3⟩ := pend_remove h
    obtain ⟨b1, _, b3⟩ := pend_remove hw
    refine ⟨funext fun j => ?_, hw⟩
    by_cases hj : j = g.id
    · rw [if_pos hj, hj, a1]; exact b1
    · have := congrFun (b3.trans a3.symm) j
      rw [if_neg hj]
      rwa [if_neg hj, if_neg hj] at this

theorem takeGroup_refines {gs : List Group} {id : Nat} {g : Group} {r : List Group} (hw : Wf gs)
    (h : takeGroup gs id = some (g, r)) :
    specStep (pend gs) (.release id g.evs) = some (pend r) ∧ Wf r := by
  obtain ⟨pre, post, rfl, rfl, rfl⟩ := takeGroup_split h
  exact spec_release hw

end Evl.Gated
