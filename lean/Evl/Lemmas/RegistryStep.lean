import Evl.Lemmas.Registry
/-! What one operation of M1 `Registry` can do: the one case analysis of `step`. -/
namespace Evl.Registry

/-- instances whose `Close` an operation's result reports -/
def closedOf : Res → List Nat
  | .closed is _ => is
  | .rpan _ is _ => is
  | _ => []

def Op.passive : Op → Bool
  | .regNode .. | .removeNode _ | .regPipe .. | .removePipe .. | .rpan .. => false
  | _ => true

/-- The outcomes of `step b op`, each with the checks that led to it as premises; where the operation is a
variable the cases are taken by `induction`, which skips the index unification `cases` pays for.  For the refusals and
`passive` it is sound only (what the outcome implies, not when it occurs); the premises of the other five
are all the checks there are (`Step.is_step`).  So a theorem that one particular call *is* refused, or with
which error (`C06.removeNode_inUse`, `C07.invalid_policy_rejected`), cannot come from here: it unfolds that
call's own `stepX`.

A refused call changes nothing at all, except that RegisterPipeline has created the graph of the event
type by the time it looks at the pipeline (`refusedLate`).  `passive` is every threshold setter that goes
through and every query: all it keeps of them is that no graph disappears (`hgs`) and that the answer
reports no `Close` (`hr`); their exact effect is in `lookupGraph_edit`, `setter_ok`, `step_getThr`. -/
inductive Step (b : Broker) : Op → Broker × Res → Prop
  | refused (op : Op) (e : Err) : Step b op (b, .err e)
  | refusedLate (ty pid : Nat) (ids : List Nat) (pol : Pol) (e : Err) :
      Step b (.regPipe ty pid ids pol) ({ b with graphs := ensureGraph b.graphs ty }, .err e)
  | passive (op : Op) (gs : List Graph) (r : Res) (hop : op.passive = true)
      (hgs : ∀ t, (lookupGraph b.graphs t).isSome = true → (lookupGraph gs t).isSome = true)
      (hr : closedOf r = []) :
      Step b op ({ b with graphs := gs }, r)
  | regNode (id ty : Nat) (beh : Beh) (cf : Bool) (pol : Pol)
      (hid : id ≠ 0) (hpol : polValid pol = true)
      (hdeny : ∀ old, lookupNode b.nodes id = some old → old.deny = false) :
      Step b (.regNode id ty beh cf pol)
        ({ b with
            nodes := putNode b.nodes id
              { inst := b.nextInst, ty := ty, beh := beh, closeFails := cf,
                refs := ((lookupNode b.nodes id).map (·.refs)).getD 0, deny := polDeny pol }
            nextInst := b.nextInst + 1 }, .ok)
  | removeNode (id : Nat) (e : NodeEntry) (hl : lookupNode b.nodes id = some e) (hfree : e.refs = 0) (hid : id ≠ 0) :
      Step b (.removeNode id)
        ({ b with nodes := eraseNode b.nodes id },
         .closed [e.inst] (if e.closeFails then some .closeErr else none))
  | regPipe (ty pid : Nat) (ids : List Nat) (pol : Pol) (bound : List Bound)
      (hargs : pid ≠ 0 ∧ ty ≠ 0 ∧ ids ≠ [] ∧ 0 ∉ ids) (hpol : polValid pol = true)
      (hdeny : ∀ o, lookupPipe b.pipes ty pid = some o → o.deny = false)
      (hres : resolve b.nodes ids = some bound)
      (hval : validateChain none (bound.map (·.ty)) = none) :
      Step b (.regPipe ty pid ids pol)
        ({ b with
            graphs := ensureGraph b.graphs ty
            nodes := acquire (releaseOld b.nodes (lookupPipe b.pipes ty pid)) ids
            pipes := erasePipe b.pipes ty pid ++ [{ ty := ty, pid := pid, nodes := bound, deny := polDeny pol }] },
         .ok)
  | removePipe (ty pid : Nat) (hg : (lookupGraph b.graphs ty).isSome = true) (hty : ty ≠ 0) (hpid : pid ≠ 0) :
      Step b (.removePipe ty pid)
        ({ b with nodes := releaseOld b.nodes (lookupPipe b.pipes ty pid), pipes := erasePipe b.pipes ty pid }, .ok)
  | rpan (ty pid : Nat) (o : Pipe) (ho : lookupPipe b.pipes ty pid = some o)
      (hg : (lookupGraph b.graphs ty).isSome = true) (hty : ty ≠ 0) (hpid : pid ≠ 0) :
      Step b (.rpan ty pid)
        ({ b with nodes := (detachAll b.nodes o.ids).1, pipes := erasePipe b.pipes ty pid },
         .rpan true ((detachAll b.nodes o.ids).2.map (·.2.inst))
           (o.ids.any (fun id => (lookupNode b.nodes id).isNone) || (detachAll b.nodes o.ids).2.any (·.2.closeFails)))

theorem Step.read {b : Broker} {op : Op} {r : Res} (hop : op.passive = true) (hr : closedOf r = []) :
    Step b op (b, r) :=
  .passive op b.graphs r hop (fun _ h => h) hr

/-- the argument checks the two threshold setters share (`stepSetThr`, `stepSetThrSinks`), in front of what
they do (`x`); `step b (.setThr ty n)` and `step b (.setThrSinks ty n)` unfold to `setterGuard b ty n _` -/
def setterGuard (b : Broker) (ty : Nat) (n : Int) (x : Broker × Res) : Broker × Res :=
  if ty == 0 then (b, .err .emptyType) else if n < 0 then (b, .err .negative) else x

theorem Step.setter {b : Broker} {op : Op} {ty : Nat} {n : Int} {x : Broker × Res} (hx : Step b op x) :
    Step b op (setterGuard b ty n x) :=
  iteInduction (fun _ => .refused _ _) fun _ => iteInduction (fun _ => .refused _ _) fun _ => hx

theorem regPipe_args {ty pid : Nat} {ids : List Nat} :
    (pid == 0 || ty == 0 || ids.isEmpty || ids.contains 0) = false ↔ pid ≠ 0 ∧ ty ≠ 0 ∧ ids ≠ [] ∧ 0 ∉ ids := by
  simp only [List.contains_eq_mem, Bool.or_eq_false_iff, beq_eq_false_iff_ne, List.isEmpty_eq_false_iff,
    and_assoc, decide_eq_false_iff_not]

theorem step_spec (b : Broker) (op : Op) : Step b op (step b op) := by
  cases op with
  | regNode id ty beh cf pol =>
    show Step b _ (stepRegNode b id ty beh cf pol)
    refine iteInduction (fun _ => .refused _ _) fun hid => ?_
    refine iteInduction (fun _ => .refused _ _) fun hpol => ?_
    have ok := Step.regNode (b := b) id ty beh cf pol (mt beq_iff_eq.mpr hid) (by simpa using hpol)
    cases hl : lookupNode b.nodes id with
    | none =>
      rw [hl] at ok
      exact ok (fun _ h => nomatch h)
    | some old =>
      rw [hl] at ok
      dsimp only
      cases hd : old.deny with
      | true => exact .refused _ _
      | false => exact ok (fun _ h => Option.some.inj h ▸ hd)
  | removeNode id =>
    show Step b _ (stepRemoveNode b id)
    refine iteInduction (fun _ => .refused _ _) fun hid => ?_
    cases hl : lookupNode b.nodes id with
    | none => exact .refused _ _
    | some e =>
      exact iteInduction (fun _ => .refused _ _) fun hu => .removeNode id e hl (Nat.eq_zero_of_not_pos hu) (mt beq_iff_eq.mpr hid)
  | regPipe ty pid ids pol =>
    show Step b _ (stepRegPipe b ty pid ids pol)
    refine iteInduction (fun _ => .refused _ _) fun hargs => ?_
    refine iteInduction (fun _ => .refused _ _) fun hpol => ?_
    refine iteInduction (fun _ => .refusedLate ..) fun hdeny => ?_
    cases hres : resolve b.nodes ids with
    | none => exact .refusedLate ..
    | some bound =>
      dsimp only
      cases hval : validateChain none (bound.map (·.ty)) with
      | some e => exact .refusedLate ..
      | none =>
        refine .regPipe ty pid ids pol bound (regPipe_args.mp (eq_false_of_ne_true hargs)) (by simpa using hpol) ?_ hres hval
        intro o ho; simpa [ho] using hdeny
  | removePipe ty pid =>
    show Step b _ (stepRemovePipe b ty pid)
    refine iteInduction (fun _ => .refused _ _) fun hty => ?_
    refine iteInduction (fun _ => .refused _ _) fun hpid => ?_
    cases hg : lookupGraph b.graphs ty with
    | none => exact .refused _ _
    | some g => exact .removePipe ty pid (by rw [hg]; rfl) (mt beq_iff_eq.mpr hty) (mt beq_iff_eq.mpr hpid)
  | rpan ty pid =>
    show Step b _ (stepRpan b ty pid)
    refine iteInduction (fun _ => .refused _ _) fun hty => ?_
    refine iteInduction (fun _ => .refused _ _) fun hpid => ?_
    cases hg : lookupGraph b.graphs ty with
    | none => exact .refused _ _
    | some g =>
      cases ho : lookupPipe b.pipes ty pid with
      | none => exact .refused _ _
      | some o => exact .rpan ty pid o ho (by rw [hg]; rfl) (mt beq_iff_eq.mpr hty) (mt beq_iff_eq.mpr hpid)
  | setThr ty n | setThrSinks ty n => exact .setter (.passive _ _ _ rfl (lookupGraph_edit_mono fun _ => rfl) rfl)
  | getThr ty =>
    show Step b _ (stepGetThr b ty)
    unfold stepGetThr
    cases lookupGraph b.graphs ty <;> exact .read rfl rfl
  | getThrSinks ty =>
    show Step b _ (stepGetThrSinks b ty)
    unfold stepGetThrSinks
    cases lookupGraph b.graphs ty <;> exact .read rfl rfl
  | send ty =>
    show Step b _ (stepSend b ty)
    unfold stepSend
    cases lookupGraph b.graphs ty with
    | none => exact .refused _ _
    | some g => exact .read rfl rfl
  | isAny _ | reopen _ => exact .read rfl rfl

theorem Step.is_step {b : Broker} {op : Op} {s : Broker × Res} (h : Step b op s)
    (hop : op.passive = false := by rfl) (hs : ∀ e, s.2 ≠ .err e := by exact fun _ => Res.noConfusion) : step b op = s := by
  induction h with
  | refused | refusedLate => exact absurd rfl (hs _)
  | passive _ _ _ hp => rw [hp] at hop; cases hop
  | regNode id ty beh cf pol hid hpol hdeny =>
    show stepRegNode b id ty beh cf pol = _
    unfold stepRegNode
    rw [if_neg (mt beq_iff_eq.mp hid), if_neg (by simp [hpol])]
    cases hl : lookupNode b.nodes id with
    | none => rfl
    | some old =>
      dsimp only
      rw [hdeny old hl]
      rfl
  | removeNode id e hl hfree hid =>
    show stepRemoveNode b id = _
    unfold stepRemoveNode
    rw [if_neg (mt beq_iff_eq.mp hid), hl]
    exact if_neg (by rw [hfree]; exact Nat.lt_irrefl 0)
  | regPipe ty pid ids pol bound hargs hpol hdeny hres hval =>
    have h1 := regPipe_args.mpr hargs
    have h2 : ((lookupPipe b.pipes ty pid).map (·.deny)).getD false = false := by
      cases ho : lookupPipe b.pipes ty pid with
      | none => rfl
      | some o => exact hdeny o ho
    show stepRegPipe b ty pid ids pol = _
    simp only [stepRegPipe, h1, hpol, h2, hres, hval, Bool.false_eq_true, if_false, Bool.not_true]
  | removePipe ty pid hg hty hpid =>
    obtain ⟨g, hg⟩ := Option.isSome_iff_exists.mp hg
    show stepRemovePipe b ty pid = _
    unfold stepRemovePipe
    rw [if_neg (mt beq_iff_eq.mp hty), if_neg (mt beq_iff_eq.mp hpid), hg]
  | rpan ty pid o ho hg hty hpid =>
    obtain ⟨g, hg⟩ := Option.isSome_iff_exists.mp hg
    show stepRpan b ty pid = _
    unfold stepRpan
    rw [if_neg (mt beq_iff_eq.mp hty), if_neg (mt beq_iff_eq.mp hpid), hg, ho]

theorem setter_ok {b : Broker} {ty : Nat} {n : Int} (hty : ty ≠ 0) (hn : 0 ≤ n) (x : Broker × Res) :
    setterGuard b ty n x = x :=
  (if_neg (mt beq_iff_eq.mp hty)).trans (if_neg (Int.not_lt.mpr hn))

theorem setter_neg (b : Broker) (ty : Nat) {n : Int} (hn : n < 0) (x : Broker × Res) :
    ∃ e, setterGuard b ty n x = (b, .err e) := by
  by_cases h : (ty == 0) = true
  · exact ⟨_, if_pos h⟩
  · exact ⟨_, (if_neg h).trans (if_pos hn)⟩

theorem step_getThr (b : Broker) (t : Nat) :
    (step b (.getThr t)).2 = match lookupGraph b.graphs t with
      | some g => .thr g.thr true
      | none => .thr 0 false := by
  show (stepGetThr b t).2 = _
  unfold stepGetThr
  cases lookupGraph b.graphs t <;> rfl

theorem step_getThrSinks (b : Broker) (t : Nat) :
    (step b (.getThrSinks t)).2 = match lookupGraph b.graphs t with
      | some g => .thr g.thrSinks true
      | none => .thr 0 false := by
  show (stepGetThrSinks b t).2 = _
  unfold stepGetThrSinks
  cases lookupGraph b.graphs t <;> rfl

end Evl.Registry
