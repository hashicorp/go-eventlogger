/-! Lists with distinct keys, and association lists looked up by `find?` on the first component; those
overwritten by "erase the key, then append" are last-writer-wins (`assoc_put`). -/
namespace Evl.Keyed

section keyed
variable {α κ : Type} (k : α → κ) {p : α → Bool} {a : κ} {l : List α} {x : α}

theorem filter_of_mem_nodup (hp : ∀ x, p x = true ↔ k x = a) (hnd : (l.map k).Nodup) (hx : x ∈ l) (hk : k x = a) :
    l.filter p = [x] := by
  induction l with
  | nil => cases hx
  | cons y ys ih =>
    rw [List.map_cons, List.nodup_cons] at hnd
    have clash : ∀ z ∈ ys, k z = a → p y ≠ true := fun z hz hkz hpy =>
      hnd.1 (List.mem_map.mpr ⟨z, hz, hkz.trans ((hp y).mp hpy).symm⟩)
    rw [List.filter_cons]
    rcases List.mem_cons.mp hx with rfl | hx
    · rw [if_pos ((hp x).mpr hk), List.filter_eq_nil_iff.mpr]
      exact fun z hz hpz => clash z hz ((hp z).mp hpz) ((hp x).mpr hk)
    · rw [if_neg (clash x hx hk)]
      exact ih hnd.2 hx

theorem find?_of_mem_nodup (hp : ∀ x, p x = true ↔ k x = a) (hnd : (l.map k).Nodup) (hx : x ∈ l) (hk : k x = a) :
    l.find? p = some x := by
  rw [← List.head?_filter, filter_of_mem_nodup k hp hnd hx hk]
  rfl

-- `k` is explicit in the lemmas that tie a test `p` to it (`hp`); elsewhere it is read off the `Nodup` hypothesis
variable {k}

theorem eq_of_key_eq (hnd : (l.map k).Nodup) {y : α} (hx : x ∈ l) (hy : y ∈ l) (h : k x = k y) : x = y :=
  have hp : l.Pairwise (fun a b => k a ≠ k b) := List.pairwise_map.mp hnd
  List.Pairwise.forall_of_forall_of_flip (R := fun a b => k a = k b → a = b) (fun _ _ _ => rfl)
    (hp.imp fun hab e => absurd e hab) (hp.imp fun hab e => absurd e.symm hab) hx hy h

theorem eq_concat_of_getLast? (hnd : (l.map k).Nodup) (hlast : (l.map k).getLast? = some a) :
    ∃ pre x, l = pre ++ [x] ∧ k x = a ∧ ∀ y ∈ pre, k y ≠ a := by
  obtain ⟨ys, hys⟩ := List.getLast?_eq_some_iff.mp hlast
  obtain ⟨pre, _, rfl, rfl, hx⟩ := List.map_eq_append_iff.mp hys
  obtain ⟨x, rfl, rfl⟩ := List.map_eq_singleton_iff.mp hx
  exact ⟨pre, x, rfl, rfl, fun y hy =>
    (List.nodup_append.mp (hys ▸ hnd)).2.2 _ (List.mem_map_of_mem hy) _ (List.mem_singleton_self _)⟩

theorem filter_take_drop [BEq κ] [LawfulBEq κ] (k : α → κ) (l : List α) (h : (l.map k).Nodup) (n : Nat) :
    l.filter (fun x => !((l.map k).take n).contains (k x)) = l.drop n := by
  induction l generalizing n with
  | nil => simp
  | cons x xs ih =>
    cases n with
    | zero => simp
    | succ n =>
      have hn := List.nodup_cons.mp h
      have hx : ∀ y ∈ xs, (k y == k x) = false := fun y hy =>
        beq_eq_false_iff_ne.mpr fun e => hn.1 (e ▸ List.mem_map_of_mem hy)
      simp only [List.map_cons, List.take_succ_cons, List.contains_cons, List.filter_cons, beq_self_eq_true,
        Bool.true_or, Bool.not_true, Bool.false_eq_true, if_false, List.drop_succ_cons]
      rw [← ih hn.2 n]
      exact List.filter_congr fun y hy => by rw [hx y hy, Bool.false_or]

theorem nodup_map_filter (h : (l.map k).Nodup) {p : α → Bool} : ((l.filter p).map k).Nodup :=
  h.sublist (List.filter_sublist.map k)

theorem nodup_filter_append (k : α → κ) (hp : ∀ x, p x = true ↔ k x = a) (hnd : (l.map k).Nodup) (hk : k x = a) :
    ((l.filter (fun y => !p y) ++ [x]).map k).Nodup := by
  rw [List.map_append]
  refine List.nodup_append.mpr ⟨nodup_map_filter hnd, List.pairwise_singleton _ _, ?_⟩
  intro c hc d hd heq
  obtain ⟨y, hy, rfl⟩ := List.mem_map.mp hc
  have := (List.mem_filter.mp hy).2
  rw [(hp y).mpr ((heq.trans (List.mem_singleton.mp hd)).trans hk)] at this
  cases this

theorem find?_filter_not (p : α → Bool) (l : List α) : (l.filter (fun x => !p x)).find? p = none := by
  rw [List.find?_eq_none]
  intro x hx hp
  rw [List.mem_filter, hp] at hx
  exact Bool.false_ne_true hx.2

theorem find?_filter_not_append (p : α → Bool) (l : List α) (hx : p x = true) :
    (l.filter (fun y => !p y) ++ [x]).find? p = some x := by
  rw [List.find?_append, find?_filter_not, List.find?_singleton, hx]
  rfl

end keyed

/-! Association lists: `(l.find? (·.1 == a)).map (·.2)` is what `lookupNode`, `FileSink.lookup` and
`Sinks.format` unfold to; `l.filter (·.1 != a) ++ [(a, b)]` is `putNode` and `formattedAs`. -/
section assoc
variable {κ β : Type} [DecidableEq κ] {l : List (κ × β)} {a : κ} {b : β}

theorem assoc_eq_some (h : (l.find? (fun x => x.1 == a)).map (·.2) = some b) : (a, b) ∈ l := by
  obtain ⟨x, hf, rfl⟩ := Option.map_eq_some_iff.mp h
  have hk : x.1 = a := beq_iff_eq.mp (List.find?_some (p := fun x : κ × β => x.1 == a) hf)
  exact hk ▸ List.mem_of_find?_eq_some hf

theorem assoc_eq_none (h : (l.find? (fun x => x.1 == a)).map (·.2) = none) (b : β) : (a, b) ∉ l :=
  fun hm => Bool.false_ne_true ((List.find?_eq_none.mp (Option.map_eq_none_iff.mp h) _ hm) (beq_self_eq_true' a)).elim

theorem assoc_of_mem (hnd : (l.map (·.1)).Nodup) (h : (a, b) ∈ l) : (l.find? (fun x => x.1 == a)).map (·.2) = some b :=
  congrArg (Option.map (·.2)) (find?_of_mem_nodup (·.1) (fun _ => beq_iff_eq) hnd h rfl)

theorem assoc_put (l : List (κ × β)) (a : κ) (b : β) (c : κ) :
    ((l.filter (fun x => x.1 != a) ++ [(a, b)]).find? (fun x => x.1 == c)).map (·.2) =
      if c = a then some b else (l.find? (fun x => x.1 == c)).map (·.2) := by
  by_cases h : c = a
  · rw [if_pos h, h]
    exact congrArg (Option.map (·.2))
      (find?_filter_not_append (x := (a, b)) (fun x : κ × β => x.1 == a) l (beq_self_eq_true' a))
  · -- entries for `c` pass the filter, and the new entry is not for `c`
    rw [if_neg h, List.find?_append, List.find?_filter, List.find?_singleton, beq_false_of_ne (Ne.symm h),
      if_neg Bool.false_ne_true, Option.or_none]
    refine congrArg (fun q => (l.find? q).map (·.2)) (funext fun x => ?_)
    cases hx : x.1 == c
    · simp
    · simp [bne_iff_ne.mpr (fun e : x.1 = a => h ((beq_iff_eq.mp hx).symm.trans e))]

theorem keys_put_nodup (hnd : (l.map (·.1)).Nodup) (a : κ) (b : β) :
    ((l.filter (fun x => x.1 != a) ++ [(a, b)]).map (·.1)).Nodup :=
  nodup_filter_append (·.1) (p := fun x : κ × β => x.1 == a) (fun _ => beq_iff_eq) hnd rfl

end assoc

/-! A map that rewrites some elements in place (`if p x then f x else x`): `release` and `acquire` of M1, `chmod`,
`appendTo` and the renames of M5. -/
section rewrite
variable {α : Type}

theorem map_map_ite {β : Type} (g : α → β) (f : α → α) {p : α → Bool} (hg : ∀ x, g (f x) = g x) {l : List α} :
    (l.map fun x => if p x then f x else x).map g = l.map g := by
  rw [List.map_map]
  refine List.map_congr_left fun x _ => ?_
  simp only [Function.comp]
  split
  · exact hg x
  · rfl

theorem map_ite_eq_self {κ : Type} [BEq κ] [LawfulBEq κ] {k : α → κ} {a : κ} {f : α → α} {l : List α}
    (h : ∀ x ∈ l, k x ≠ a) : (l.map fun x => if k x == a then f x else x) = l :=
  (List.map_congr_left fun x hx => if_neg (mt beq_iff_eq.mp (h x hx))).trans (List.map_id' l)

end rewrite

end Evl.Keyed
