import Evl.Model.Lockset
import Evl.Lemmas.Keyed
/-! Lock-set soundness (`lockset_sound`): in a well-formed trace in which every access to the location holds its
guard, write mode for writes — both are what `run … = some _` says —, two conflicting accesses by different
threads are separated by a release by the first and a later acquire by the second: they are ordered by
happens-before in every schedule.  The fact behind it is `separated`, about holders alone. -/
namespace Evl.Lockset

theorem locOK_of_guards {as : List Access} {loc l : Nat} (hloc : loc ∈ locsOf as)
    (h : ∀ a ∈ as, a.loc = loc → guards a l = true) : locOK as loc = true := by
  obtain ⟨a, ha, rfl⟩ := List.mem_map.mp (List.mem_eraseDups.mp hloc)
  have hmine : ∀ b ∈ as.filter (·.loc == a.loc), guards b l = true := fun b hb =>
    h b (List.mem_filter.mp hb).1 (eq_of_beq (List.mem_filter.mp hb).2)
  have ha' : a ∈ as.filter (·.loc == a.loc) := List.mem_filter.mpr ⟨ha, beq_self_eq_true' _⟩
  -- `locOK` looks for the lock among those held somewhere: it is held at `a`
  obtain ⟨x, hx, hx2⟩ := List.any_eq_true.mp (hmine a ha')
  refine List.any_eq_true.mpr ⟨l, List.mem_eraseDups.mpr (List.mem_flatMap.mpr ⟨a, ha', ?_⟩),
    List.all_eq_true.mpr hmine⟩
  exact List.mem_map.mpr ⟨x, hx, eq_of_beq (Bool.and_eq_true_iff.mp hx2).1⟩

theorem disciplineOK_of_guards {as : List Access} (w : Nat → Nat)
    (h : as.all (fun a => guards a (w a.loc)) = true) : disciplineOK as = true :=
  List.all_eq_true.mpr fun _ hloc => locOK_of_guards hloc fun a ha e => e ▸ List.all_eq_true.mp h a ha

/-- what a reader/writer lock allows: a writer holds alone, and no thread holds twice -/
def Excl (h : Holders) : Prop :=
  (∀ t, (t, Mode.w) ∈ h → h = [(t, .w)]) ∧ h.Pairwise (fun a b => a.1 ≠ b.1)

theorem excl_nil : Excl [] := ⟨nofun, .nil⟩

theorem mem_holds {h : Holders} (he : Excl h) {t m} (hm : (t, m) ∈ h) : holds h t = some m :=
  Keyed.assoc_of_mem (List.pairwise_map.mpr he.2) hm

theorem acc_holds {h h' : Holders} {t wr} (hs : lstep h (.acc t wr) = some h') :
    h' = h ∧ ∃ m, (t, m) ∈ h ∧ (wr = true → m = .w) := by
  dsimp only [lstep] at hs
  split at hs
  · next hm => exact ⟨(Option.some.inj hs).symm, .w, Keyed.assoc_eq_some hm, fun _ => rfl⟩
  · next hm => exact ⟨(Option.some.inj hs).symm, .r, Keyed.assoc_eq_some hm, nofun⟩
  · cases hs

theorem lstep_cases {h h' : Holders} {e : Ev} (hs : lstep h e = some h') :
    h' = h ∨ (∃ t, e = .acq t .w ∧ h = [] ∧ h' = [(t, .w)]) ∨
    (∃ t, e = .acq t .r ∧ (∀ x ∈ h, x.2 = .r ∧ x.1 ≠ t) ∧ h' = (t, .r) :: h) ∨
    (∃ t, e = .rel t ∧ h' = h.filter (·.1 ≠ t)) := by
  cases e with
  | acq t m =>
    cases m with
    | w =>
      obtain ⟨hn, rfl⟩ := Option.ite_some_none_eq_some.mp hs
      exact .inr (.inl ⟨t, rfl, hn, rfl⟩)
    | r =>
      obtain ⟨hall, rfl⟩ := Option.ite_some_none_eq_some.mp hs
      exact .inr (.inr (.inl ⟨t, rfl, fun x hx => of_decide_eq_true (List.all_eq_true.mp hall x hx), rfl⟩))
  | rel t =>
    obtain ⟨_, rfl⟩ := Option.ite_some_none_eq_some.mp hs
    exact .inr (.inr (.inr ⟨t, rfl, rfl⟩))
  | acc t wr => exact .inl (acc_holds hs).1
  | other => exact .inl (Option.some.inj hs).symm

theorem excl_step {h h' : Holders} {e : Ev} (he : Excl h) (hs : lstep h e = some h') : Excl h' := by
  rcases lstep_cases hs with rfl | ⟨t, _, _, rfl⟩ | ⟨t, _, hall, rfl⟩ | ⟨t, _, rfl⟩
  · exact he
  · exact ⟨fun t' ht' => by rw [(Prod.mk.inj (List.mem_singleton.mp ht')).1], List.pairwise_singleton ..⟩
  · refine ⟨fun t' ht' => ?_, List.pairwise_cons.mpr ⟨fun a ha e => (hall a ha).2 e.symm, he.2⟩⟩
    rcases List.mem_cons.mp ht' with h1 | h1
    · cases h1
    · cases (hall _ h1).1
  · refine ⟨fun t' ht' => ?_, he.2.sublist List.filter_sublist⟩
    have hw := he.1 t' (List.mem_filter.mp ht').1
    rw [hw]
    exact List.filter_eq_self.mpr fun a ha => List.mem_singleton.mp ha ▸ (List.mem_filter.mp ht').2

theorem mem_step {h h' : Holders} {e : Ev} {t m} (hs : lstep h e = some h') (hm : (t, m) ∈ h)
    (hn : e ≠ .rel t) : (t, m) ∈ h' := by
  rcases lstep_cases hs with rfl | ⟨_, _, rfl, _⟩ | ⟨_, _, _, rfl⟩ | ⟨t', rfl, rfl⟩
  · exact hm
  · cases hm
  · exact List.mem_cons_of_mem _ hm
  · exact List.mem_filter.mpr ⟨hm, decide_eq_true fun e => hn (e ▸ rfl)⟩

theorem mem_of_step {h h' : Holders} {e : Ev} {t m} (hs : lstep h e = some h') (hm : (t, m) ∈ h')
    (hn : ∀ m', e ≠ .acq t m') : (t, m) ∈ h := by
  rcases lstep_cases hs with rfl | ⟨t', rfl, _, rfl⟩ | ⟨t', rfl, _, rfl⟩ | ⟨_, _, rfl⟩
  · exact hm
  · cases List.mem_singleton.mp hm; exact absurd rfl (hn _)
  · rcases List.mem_cons.mp hm with h1 | h1
    · cases h1; exact absurd rfl (hn _)
    · exact h1
  · exact (List.mem_filter.mp hm).1

theorem run_cons {h h' : Holders} {e : Ev} {es : List Ev} :
    run h (e :: es) = some h' ↔ ∃ h1, lstep h e = some h1 ∧ run h1 es = some h' :=
  Option.bind_eq_some_iff

theorem run_append_eq (a b : List Ev) (h : Holders) : run h (a ++ b) = (run h a).bind (run · b) := by
  induction a generalizing h with
  | nil => rfl
  | cons e a ih => simp only [List.cons_append, run, ih, Option.bind_assoc]

theorem run_append {a b : List Ev} {h h' : Holders} :
    run h (a ++ b) = some h' ↔ ∃ h1, run h a = some h1 ∧ run h1 b = some h' := by
  rw [run_append_eq]
  exact Option.bind_eq_some_iff

theorem excl_run {τ : List Ev} {h h' : Holders} (he : Excl h) (hr : run h τ = some h') : Excl h' := by
  induction τ generalizing h with
  | nil => exact Option.some.inj hr ▸ he
  | cons e es ih =>
    obtain ⟨_, hs, hr'⟩ := run_cons.mp hr
    exact ih (excl_step he hs) hr'

theorem held_before {t : Nat} {m : Mode} {τ : List Ev} {h h' : Holders} (hr : run h τ = some h')
    (hm : (t, m) ∈ h') (hn : ∀ e ∈ τ, ∀ m', e ≠ .acq t m') : (t, m) ∈ h := by
  induction τ generalizing h with
  | nil => exact Option.some.inj hr ▸ hm
  | cons e es ih =>
    obtain ⟨_, hs, hr'⟩ := run_cons.mp hr
    exact mem_of_step hs (ih hr' fun x hx => hn x (List.mem_cons_of_mem _ hx)) (hn e List.mem_cons_self)

theorem no_coexist {h : Holders} (he : Excl h) {t1 t2 m1 m2} (hne : t1 ≠ t2)
    (h1 : (t1, m1) ∈ h) (h2 : (t2, m2) ∈ h) (hw : m1 = .w ∨ m2 = .w) : False := by
  rcases hw with rfl | rfl
  · rw [he.1 t1 h1] at h2; exact hne (Prod.mk.inj (List.mem_singleton.mp h2)).1.symm
  · rw [he.1 t2 h2] at h1; exact hne (Prod.mk.inj (List.mem_singleton.mp h1)).1

theorem separated {t1 t2 : Nat} {m1 m2 : Mode} (hne : t1 ≠ t2) (hw : m1 = .w ∨ m2 = .w) {τ : List Ev} {h h' : Holders}
    (he : Excl h) (hr : run h τ = some h') (h1 : (t1, m1) ∈ h) (h2 : (t2, m2) ∈ h') :
    ∃ a b, τ = a ++ .rel t1 :: b ∧ ∃ m, .acq t2 m ∈ b := by
  induction τ generalizing h with
  | nil => exact (no_coexist he hne h1 (Option.some.inj hr ▸ h2) hw).elim
  | cons e es ih =>
    obtain ⟨_, hs, hr'⟩ := run_cons.mp hr
    by_cases hrel : e = .rel t1
    · -- otherwise `t2` has held the lock since before this release, together with `t1`
      refine ⟨[], es, hrel ▸ rfl, Classical.byContradiction fun hacq => ?_⟩
      have h2' := held_before hr' h2 fun e he m' heq => hacq ⟨m', heq ▸ he⟩
      exact no_coexist he hne h1 (mem_of_step hs h2' (hrel ▸ nofun)) hw
    · obtain ⟨a, b, rfl, hb⟩ := ih (excl_step he hs) hr' (mem_step hs h1 hrel)
      exact ⟨e :: a, b, rfl, hb⟩

theorem lockset_sound {h0 hfin : Holders} (he0 : Excl h0) {τ1 τ2 τ3 : List Ev} {t1 t2 : Nat} {w1 w2 : Bool}
    (hrun : run h0 (τ1 ++ .acc t1 w1 :: (τ2 ++ .acc t2 w2 :: τ3)) = some hfin)
    (hne : t1 ≠ t2) (hconf : w1 = true ∨ w2 = true) :
    ∃ a b, τ2 = a ++ .rel t1 :: b ∧ ∃ m, .acq t2 m ∈ b := by
  obtain ⟨h1, hr1, hrun1⟩ := run_append.mp hrun
  obtain ⟨_, hs1, hrun2⟩ := run_cons.mp hrun1
  obtain ⟨rfl, m1, hm1, hn1⟩ := acc_holds hs1
  obtain ⟨h2, hr2, hrun3⟩ := run_append.mp hrun2
  obtain ⟨_, hs2, _⟩ := run_cons.mp hrun3
  obtain ⟨rfl, m2, hm2, hn2⟩ := acc_holds hs2
  exact separated hne (hconf.imp hn1 hn2) (excl_run he0 hr1) hr2 hm1 hm2

end Evl.Lockset
