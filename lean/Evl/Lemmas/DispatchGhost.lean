import Evl.Lemmas.DispatchInv
/-! The ghost invariant `GInv` of M2 (C01, C02).  It reads three things of a
pipeline — idle or not, `k`, ended or not (`PS.sameObs`) — so steps that change none of them keep it by
`GInv.congr`; the others call a node (`GInv.invoke`: rangeStart, spawn) or leave the status select (`GInv.sent`:
rendezvous, sendAbort). -/
namespace Evl.Dispatch

def ended (x : PS) : Prop := x.ph = .finishing ∨ x.ph = .finished

structure GInv (c : Cfg) (s : S) : Prop where
  /-- the invocations of pipeline `p` are nodes 0..k, in order, each once -/
  invP : ∀ p, s.inv.filter (fun e => e.1 == p) =
    if (s.ps p).ph = .idle then [] else (List.range ((s.ps p).k + 1)).map (fun j => (p, j))
  /-- every node before the current one returned an event and no error, and was not the leaf -/
  cont : ∀ p j, j < (s.ps p).k → stops c p j (c.out p j) = false
  /-- every collected status stands for a traversal that really ended there, with that outcome -/
  gotOk : ∀ e ∈ s.got, e.1 < c.n ∧ ended (s.ps e.1) ∧ e.2.1 = (s.ps e.1).k ∧ e.2.2 = (c.out e.1 e.2.1 == .err)
  /-- at most one status per pipeline -/
  gotNodup : (s.got.map (·.1)).Nodup
  /-- without cancellation no ended traversal's status is missing -/
  gotAll : s.ctxDone = false → ∀ p, ended (s.ps p) → p ∈ s.got.map (·.1)
  /-- without cancellation the ranger leaves the range only after starting every pipeline -/
  started : s.ctxDone = false → (s.rg = .waiting ∨ s.rg = .waited ∨ s.rg = .closed) → ∀ p, p < c.n → (s.ps p).ph ≠ .idle

theorem ginv_init (c : Cfg) : GInv c init := by
  constructor <;> simp [init, ended]

structure PS.sameObs (x y : PS) : Prop where
  idle : x.ph = .idle ↔ y.ph = .idle
  k : x.k = y.k
  ended : Dispatch.ended x ↔ Dispatch.ended y

theorem PS.sameObs.rfl {x : PS} : x.sameObs x := ⟨Iff.rfl, Eq.refl _, Iff.rfl⟩

theorem PS.sameObs.upd {f : Nat → PS} {p : Nat} {x : PS} (h : x.sameObs (f p)) : ∀ q, (upd f p x q).sameObs (f q) :=
  upd_forall (Q := fun q y => y.sameObs (f q)) (fun _ _ => .rfl) h

section
variable {c : Cfg} {s : S}

theorem GInv.congr (hi : GInv c s) {ps' : Nat → PS} {r : Ranger} {ce cd : Bool}
    (hps : ∀ p, (ps' p).sameObs (s.ps p)) (hcd : cd = false → s.ctxDone = false)
    (hst : cd = false → (r = .waiting ∨ r = .waited ∨ r = .closed) → ∀ p, p < c.n → (s.ps p).ph ≠ .idle) :
    GInv c { s with ps := ps', rg := r, collExited := ce, ctxDone := cd } where
  invP p := by rw [(hps p).k, hi.invP p]; simp only [(hps p).idle]
  cont p j hj := hi.cont p j ((hps p).k ▸ hj)
  gotOk e he :=
    have ⟨a, b, d, f⟩ := hi.gotOk e he
    ⟨a, (hps e.1).ended.mpr b, d.trans (hps e.1).k.symm, f⟩
  gotNodup := hi.gotNodup
  gotAll h p hp := hi.gotAll (hcd h) p ((hps p).ended.mp hp)
  started h hr p hp hidle := hst h hr p hp ((hps p).idle.mp hidle)

theorem GInv.not_mem (hi : GInv c s) {p : Nat} (h : ¬ ended (s.ps p)) : ∀ e ∈ s.got, e.1 ≠ p :=
  fun e he hep => h (hep ▸ (hi.gotOk e he).2.1)

theorem GInv.log (hi : GInv c s) {p : Nat} (h : (s.ps p).ph ≠ .idle) :
    s.inv.filter (fun e => e.1 == p) = (List.range ((s.ps p).k + 1)).map (fun j => (p, j)) := by
  rw [hi.invP p, if_neg h]

theorem GInv.cont_succ (hi : GInv c s) {p : Nat} (h : stops c p (s.ps p).k (c.out p (s.ps p).k) = false) :
    ∀ j, j < (s.ps p).k + 1 → stops c p j (c.out p j) = false :=
  fun j hj => (Nat.lt_succ_iff_lt_or_eq.mp hj).elim (hi.cont p j) (fun e => e ▸ h)

/-- Pipeline `p` calls node `k`.  `k'` is the index as the step writes it into the state, `k` as it writes it
into the log: `spawnRoot` writes the literal `1` and `(s.ps p).k + 1`.  `hr`: the ranger stands still or enters
a root — it does not leave the range. -/
theorem GInv.invoke (hi : GInv c s) {p k k' ow : Nat} {ro : Bool} {r : Ranger} (hk : k' = k)
    (hne : ¬ ended (s.ps p))
    (hlog : s.inv.filter (fun e => e.1 == p) = (List.range k).map (fun j => (p, j)))
    (hcont : ∀ j, j < k → stops c p j (c.out p j) = false)
    (hr : (r = .waiting ∨ r = .waited ∨ r = .closed) → r = s.rg) :
    GInv c { s with ps := upd s.ps p ⟨.calling, k', ow, ro⟩, rg := r, inv := s.inv ++ [(p, k)] } where
  invP := by
    refine upd_forall (Q := fun q y => (s.inv ++ [(p, k)]).filter (fun e => e.1 == q) =
      if y.ph = .idle then [] else (List.range (y.k + 1)).map (fun j => (q, j))) (fun q hq => ?_) ?_
    · rw [List.filter_append, List.filter_cons, if_neg (mt beq_iff_eq.mp (Ne.symm hq)), List.filter_nil, List.append_nil]; exact hi.invP q
    · rw [List.filter_append, List.filter_cons, if_pos (beq_self_eq_true' p), hlog, hk, List.range_succ, List.map_append]; rfl
  cont := upd_forall (Q := fun q y => ∀ j, j < y.k → stops c q j (c.out q j) = false) (fun q _ => hi.cont q) (hk ▸ hcont)
  gotOk e he := by
    dsimp only
    rw [upd_other _ _ _ _ (hi.not_mem hne e he)]; exact hi.gotOk e he
  gotNodup := hi.gotNodup
  gotAll h := upd_forall (Q := fun q y => ended y → q ∈ s.got.map (·.1)) (fun q _ => hi.gotAll h q) (by rintro (h | h) <;> cases h)
  started h hw := upd_forall (Q := fun q y => q < c.n → y.ph ≠ .idle) (fun q _ => hi.started h (hr hw ▸ hw) q) (fun _ => nofun)

/-- Pipeline `p` leaves the status select; `g` is what the collector merged: nothing but `p`'s status, at most
once, and not nothing unless the context was done. -/
theorem GInv.sent (hi : GInv c s) {p : Nat} {g : List (Nat × Nat × Bool)} (hp : p < c.n) (h2 : (s.ps p).ph = .sending)
    (hg : ∀ e ∈ g, e = (p, (s.ps p).k, c.out p (s.ps p).k == .err)) (hnd : (g.map (·.1)).Nodup)
    (hall : s.ctxDone = false → p ∈ g.map (·.1)) :
    GInv c { s with ps := upd s.ps p { s.ps p with ph := .finishing }, got := s.got ++ g } := by
  have hnot := hi.not_mem (p := p) (by simp [ended, h2])
  constructor
  case invP =>
    exact upd_forall (Q := fun q y => s.inv.filter (fun e => e.1 == q) =
      if y.ph = .idle then [] else (List.range (y.k + 1)).map (fun j => (q, j))) (fun q _ => hi.invP q)
      (by rw [hi.invP p, h2]; rfl)
  case cont =>
    exact upd_forall (Q := fun q y => ∀ j, j < y.k → stops c q j (c.out q j) = false) (fun q _ => hi.cont q) (hi.cont p)
  case gotOk =>
    intro e he
    dsimp only
    rcases List.mem_append.mp he with he | he
    · rw [upd_other _ _ _ _ (hnot e he)]; exact hi.gotOk e he
    · rw [hg e he, upd_same]; exact ⟨hp, Or.inl rfl, rfl, rfl⟩
  case gotNodup =>
    rw [List.map_append, List.nodup_append]
    refine ⟨hi.gotNodup, hnd, fun a ha b hb hab => ?_⟩
    obtain ⟨e, he, rfl⟩ := List.mem_map.mp ha
    obtain ⟨e', he', rfl⟩ := List.mem_map.mp hb
    rw [hg e' he'] at hab; exact hnot e he hab
  case gotAll =>
    intro h
    rw [List.map_append]
    exact upd_forall (Q := fun q y => ended y → q ∈ s.got.map (·.1) ++ g.map (·.1))
      (fun q _ hq => List.mem_append_left _ (hi.gotAll h q hq)) (fun _ => List.mem_append_right _ (hall h))
  case started =>
    exact fun h hr => upd_forall (Q := fun q y => q < c.n → y.ph ≠ .idle) (fun q _ => hi.started h hr q) (fun _ => nofun)

end

theorem ginv_step {c : Cfg} {s s' : S} (hp : PInv c s) (hi : GInv c s) (hs : StepI c s s') : GInv c s' := by
  induction hs with
  | cancel _ => exact hi.congr (fun _ => .rfl) nofun nofun
  | rangeStop _ _ hd _ _ => exact hi.congr (fun _ => .rfl) id (fun h => by rw [hd] at h; cases h)
  | rangeEnd _ hall => exact hi.congr (fun _ => .rfl) id (fun _ _ => hall)
  | waitEnd hr _ => exact hi.congr (fun _ => .rfl) id (fun h _ => hi.started h (Or.inl hr))
  | close hr => exact hi.congr (fun _ => .rfl) id (fun h _ => hi.started h (Or.inr (Or.inl hr)))
  | collectCtx _ _ | collectClosed _ _ => exact hi.congr (fun _ => .rfl) id hi.started
  | ret p _ h | sendTry p _ _ h _ | doneCur p _ h _ =>
    exact hi.congr (PS.sameObs.upd ⟨by simp [h], rfl, by simp [ended, h]⟩) id hi.started
  | doneCurRoot p _ h _ _ =>
    exact hi.congr (PS.sameObs.upd ⟨by simp [h], rfl, by simp [ended, h]⟩) id fun _ => nofun
  | doneOwing p _ _ => exact hi.congr (PS.sameObs.upd ⟨.rfl, rfl, .rfl⟩) id hi.started
  | doneRoot p _ _ _ => exact hi.congr (PS.sameObs.upd ⟨.rfl, rfl, .rfl⟩) id fun _ => nofun
  | rangeStart p _ _ h =>
    exact hi.invoke rfl (by simp [ended, h]) (by rw [hi.invP p, if_pos h]; rfl) nofun (by simp)
  | spawnRoot p o _ h hst hk =>
    exact hi.invoke (by rw [hk]) (by simp [ended, h]) (hi.log (by rw [h]; nofun))
      (hi.cont_succ (hp.decidedOut p o h ▸ hst)) (fun _ => rfl)
  | spawn p o _ h hst _ =>
    exact hi.invoke rfl (by simp [ended, h]) (hi.log (by rw [h]; nofun))
      (hi.cont_succ (hp.decidedOut p o h ▸ hst)) (fun _ => rfl)
  | rendezvous p hn h _ =>
    exact hi.sent hn h (fun _ => List.mem_singleton.mp) (List.pairwise_singleton _ _) (fun _ => List.mem_singleton.mpr rfl)
  | sendAbort p hn h hd =>
    exact List.append_nil s.got ▸ hi.sent hn h nofun List.nodup_nil (fun hc => absurd hd (by rw [hc]; nofun))

theorem ginv_reach {c : Cfg} (hlen : ∀ p, p < c.n → 0 < c.len p) {s : S} (h : Reach c s) : GInv c s := by
  induction h with
  | init => exact ginv_init c
  | step l hr hf ih => exact ginv_step (pinv_reach hlen hr) ih (fire_sound hf)

/-- Send returned and was not cancelled: the channel is closed, so every traversal was started and is finished -/
theorem finished_of_returned {c : Cfg} {s : S} (hi : PInv c s) (hg : GInv c s) (hnc : s.ctxDone = false)
    (hret : s.collExited = true) {p : Nat} (hp : p < c.n) : (s.ps p).ph = .finished := by
  have hclosed : s.rg = .closed := (hi.coll hret).resolve_left (by rw [hnc]; nofun)
  have hq := not_busy (hi.quiet (Or.inr hclosed) p hp)
  exact (live_eq_false.mp hq.1).resolve_left (hg.started hnc (Or.inr (Or.inr hclosed)) p hp)

end Evl.Dispatch
