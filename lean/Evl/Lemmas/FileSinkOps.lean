import Evl.Model.FileSink
import Evl.Lemmas.Keyed
/-!
What the operations of M5 `FileSink` do, for any state: the cases of `openFile`, `prune`, `rotate` and of
a write as equations, and the rule that a property kept by open / close / rotate / append / external
rename is kept by `step` and `run`.
-/
namespace Evl.FileSink

/-- The `inodes` of `openFile`'s branch for an existing file: `os.Chmod`, only when Mode is set. -/
def chmod (c : Cfg) (i : Nat) (ins : List Inode) : List Inode :=
  if c.mode != 0 then ins.map (fun x => if x.id == i then { x with mode := c.mode } else x) else ins

theorem chmod_map {β : Type} (g : Inode → β) (hg : ∀ x m, g { x with mode := m } = g x) (c : Cfg) (i : Nat)
    (ins : List Inode) : (chmod c i ins).map g = ins.map g := by
  unfold chmod
  split
  · exact Keyed.map_map_ite g _ fun x => hg x _
  · rfl

def usesPlain (c : Cfg) : Bool := c.tsOnly || !rotateEnabled c

theorem openName_cases (c : Cfg) (s : St) :
    (usesPlain c = true ∧ openName c s = Name.plain) ∨ (usesPlain c = false ∧ openName c s = Name.ts s.stamp) := by
  unfold openName usesPlain
  cases h : (c.tsOnly || !rotateEnabled c) with
  | true => exact Or.inl ⟨rfl, if_pos rfl⟩
  | false => exact Or.inr ⟨rfl, if_neg Bool.false_ne_true⟩

theorem openFile_cases (c : Cfg) (s : St) :
    (∃ i, s.fd = some i ∧ openFile c s = s) ∨
    (∃ i, (openName c s, i) ∈ s.dir ∧ openFile c s =
      { s with inodes := chmod c i s.inodes, fd := some i, fdName := some (openName c s), bytesWritten := 0,
               stamp := s.stamp + 1, dirMade := true }) ∨
    ((∀ i, (openName c s, i) ∉ s.dir) ∧ openFile c s =
      { s with inodes := s.inodes ++ [{ id := s.stamp, evs := [], bytes := 0, mode := fileMode c }],
               dir := s.dir ++ [(openName c s, s.stamp)], fd := some s.stamp, fdName := some (openName c s),
               bytesWritten := 0, stamp := s.stamp + 1, dirMade := true }) := by
  unfold openFile
  cases s.fd with
  | some i => exact Or.inl ⟨i, rfl, rfl⟩
  | none =>
    dsimp only
    cases hl : lookup s.dir (openName c s) with
    | some i => exact Or.inr (Or.inl ⟨i, Keyed.assoc_eq_some hl, rfl⟩)
    | none => exact Or.inr (Or.inr ⟨Keyed.assoc_eq_none hl, rfl⟩)

theorem openFile_acked (c : Cfg) (s : St) : (openFile c s).acked = s.acked := by
  rcases openFile_cases c s with ⟨_, _, e⟩ | ⟨_, _, e⟩ | ⟨_, e⟩ <;> rw [e]

theorem openFile_contents (c : Cfg) (s : St) : contents (openFile c s) = contents s := by
  rcases openFile_cases c s with ⟨_, _, e⟩ | ⟨_, _, e⟩ | ⟨_, e⟩ <;> rw [e]
  · simp only [contents, List.flatMap_def, chmod_map (·.evs) fun _ _ => rfl]
  · simp only [contents, List.flatMap_append, List.flatMap_cons, List.flatMap_nil, List.append_nil]

/-- Which ids are `gone`, its users need not know (`prune_of_ord` says it for an ordered state). -/
theorem prune_eq (c : Cfg) (s : St) : ∃ gone : List Nat, prune c s =
    { s with dir := s.dir.filter (fun x => !(gone.contains x.2 && isTs x.1)),
             inodes := s.inodes.filter (fun x => !gone.contains x.id),
             removed := s.removed ++ s.inodes.filter (fun x => gone.contains x.id) } := by
  unfold prune
  by_cases h : (c.maxFiles == 0) = true
  · have ht {α : Type} (l : List α) : l.filter (fun _ => true) = l := List.filter_eq_self.mpr fun _ _ => rfl
    have hf : s.inodes.filter (fun _ => false) = [] := List.filter_eq_nil_iff.mpr fun _ _ => Bool.false_ne_true
    rw [if_pos h]
    refine ⟨[], ?_⟩
    simp only [List.contains_nil, Bool.false_and, Bool.not_false, ht, hf, List.append_nil]
  · rw [if_neg h]
    exact ⟨_, rfl⟩

theorem prune_acked (c : Cfg) (s : St) : (prune c s).acked = s.acked := by
  obtain ⟨_, e⟩ := prune_eq c s; rw [e]

theorem prune_zero {c : Cfg} {s : St} (hc : c.maxFiles = 0) : prune c s = s := by
  simp only [prune, hc, beq_self_eq_true', if_true]

theorem mem_filterMap_tsOf {a : Nat × Nat} {d : List (Name × Nat)} : a ∈ d.filterMap tsOf ↔ (Name.ts a.1, a.2) ∈ d := by
  rw [List.mem_filterMap]
  constructor
  · rintro ⟨⟨n, i⟩, hx, h⟩
    cases n <;> simp only [tsOf, Option.some.injEq, reduceCtorEq] at h
    exact h ▸ hx
  · exact fun h => ⟨_, h, rfl⟩

theorem filterMap_tsOf_snd (d : List (Name × Nat)) :
    (d.filterMap tsOf).map (·.2) = (d.filter (fun x => isTs x.1)).map (·.2) := by
  rw [List.map_filterMap, ← List.filterMap_eq_map, List.filterMap_filter]
  congr 1
  funext ⟨n, i⟩
  cases n <;> rfl

theorem filterMap_tsOf_filter (p : Nat → Bool) (d : List (Name × Nat)) :
    (d.filter (fun x => p x.2)).filterMap tsOf = (d.filterMap tsOf).filter (fun y => p y.2) := by
  rw [List.filterMap_filter, List.filter_filterMap]
  congr 1
  funext ⟨n, i⟩
  cases n <;> simp only [tsOf, Option.filter_none, ite_self]
  rfl

theorem sortTs_of_sorted {l : List (Nat × Nat)} (h : l.Pairwise (fun a b => a.1 < b.1)) : sortTs l = l := by
  induction l with
  | nil => rfl
  | cons x xs ih =>
    have hx := List.pairwise_cons.mp h
    rw [sortTs, ih hx.2]
    cases xs with
    | nil => rfl
    | cons y ys => simp only [insertTs, Nat.le_of_lt (hx.1 y (List.mem_cons_self ..)), if_true]

theorem rotateEnabled_of_needRotate {c : Cfg} {bw el : Nat} (h : needRotate c bw el = true) : rotateEnabled c = true := by
  simp only [needRotate, Bool.or_eq_true, Bool.and_eq_true, decide_eq_true_eq] at h
  simp only [rotateEnabled, Bool.or_eq_true, decide_eq_true_eq, bne_iff_ne, ne_eq]
  rcases h with ⟨_, h⟩ | ⟨_, h⟩
  · exact Or.inl h
  · exact Or.inr (by omega)

theorem rotate_of_not_needed {c : Cfg} {s : St} {el : Nat} (h : needRotate c s.bytesWritten el = false) :
    rotate c s el = (s, .ok) := by
  rw [rotate, h]; rfl

theorem renamePlain_noPlain (s : St) (i j : Nat) : (Name.plain, j) ∉ (renamePlain s i).dir := by
  intro hj
  obtain ⟨x, hx, hxe⟩ := List.mem_map.mp hj
  split at hxe
  · exact nomatch (Prod.mk.inj hxe).1
  · next hp => exact hp (hxe ▸ rfl)

theorem rotate_cases (c : Cfg) (s : St) (el : Nat) :
    (needRotate c s.bytesWritten el = false ∧ rotate c s el = (s, .ok)) ∨
    rotate c s el = (closeFd s, .errRotate) ∨
    (usesPlain c = false ∧ rotate c s el = (openFile c (prune c (closeFd s)), .ok)) ∨
    ∃ i, (Name.plain, i) ∈ s.dir ∧ rotate c s el = (openFile c (prune c (renamePlain (closeFd s) i)), .ok) := by
  cases hn : needRotate c s.bytesWritten el with
  | false => exact Or.inl ⟨rfl, rotate_of_not_needed hn⟩
  | true =>
    unfold rotate
    rw [hn, if_pos rfl]
    cases ht : c.tsOnly with
    | false =>
      exact Or.inr (Or.inr (Or.inl ⟨by rw [usesPlain, ht, rotateEnabled_of_needRotate hn]; rfl, rfl⟩))
    | true =>
      cases hl : lookup (closeFd s).dir .plain with
      | none => exact Or.inr (Or.inl rfl)
      | some i => exact Or.inr (Or.inr (Or.inr ⟨i, Keyed.assoc_eq_some hl, rfl⟩))

/-- Reopen closes the descriptor in any case, so whether its name still resolves does not matter. -/
theorem step_reopen (c : Cfg) (s : St) : step c s .reopen = (openFile c (closeFd s), .ok) := by
  simp only [step]
  split
  · split <;> rfl
  · rfl

theorem step_write_ok {c : Cfg} {s s2 : St} {ev size el i : Nat}
    (hr : rotate c (openFile c s) (if s.fd.isNone then 0 else el) = (s2, .ok)) (hfd : s2.fd = some i) :
    step c s (.write ev size el) = (appendTo s2 i ev size, .ok) := by
  simp only [step, hr, hfd]

theorem step_write_cases (c : Cfg) (s : St) (ev size el : Nat) :
    (∃ s2 i, rotate c (openFile c s) (if s.fd.isNone then 0 else el) = (s2, .ok) ∧ s2.fd = some i ∧
      step c s (.write ev size el) = (appendTo s2 i ev size, .ok)) ∨
    step c s (.write ev size el) = ((rotate c (openFile c s) (if s.fd.isNone then 0 else el)).1, .errRotate) := by
  simp only [step]
  generalize (if s.fd.isNone = true then 0 else el) = el'
  split
  · next hok hfd => exact Or.inl ⟨_, _, Prod.ext rfl hok, hfd, rfl⟩
  · exact Or.inr rfl

theorem appendTo_ids (s : St) (i ev size : Nat) : (appendTo s i ev size).inodes.map (·.id) = s.inodes.map (·.id) :=
  Keyed.map_map_ite Inode.id (fun x => { x with evs := x.evs ++ [ev], bytes := x.bytes + size }) fun _ => rfl

theorem mem_contents_appendTo {s : St} {i ev size e : Nat} :
    e ∈ contents (appendTo s i ev size) ↔ e ∈ contents s ∨ ((∃ x ∈ s.inodes, x.id = i) ∧ e = ev) := by
  have hx : ∀ x : Inode, e ∈ (if x.id == i then { x with evs := x.evs ++ [ev], bytes := x.bytes + size } else x).evs ↔
      e ∈ x.evs ∨ (x.id = i ∧ e = ev) := fun x => by
    by_cases hi : x.id = i <;> simp [hi]
  simp only [contents, appendTo, List.flatMap_map, List.mem_flatMap, hx, and_or_left, exists_or, ← and_assoc,
    exists_and_right]

/-- The rename case is asked for only when `op` is a rename, so that properties of rename-free
histories can use the rule too.  The premises are wider than what `step` does: `hren` is asked for
every name `n` in every state (the model renames only the open descriptor's name, when it resolves and
`foreign k` is free), `hrot` also for a closed descriptor (`step` rotates with the file open): a
property that needs one of these guards does not fit the rule. -/
theorem step_induct {P : St → Prop} {c : Cfg}
    (hopen : ∀ s, P s → P (openFile c s)) (hclose : ∀ s, P s → P (closeFd s))
    (hrot : ∀ s el, P s → P (rotate c s el).1)
    (happ : ∀ s i ev size, s.fd = some i → P s → P (appendTo s i ev size))
    {op : Op} (hren : ∀ k, op = .extRename k → ∀ s n, P s →
      P { s with dir := s.dir.map (fun x => if x.1 == n then (Name.foreign k, x.2) else x) })
    (s : St) (h : P s) : P (step c s op).1 := by
  cases op with
  | write ev size elapsed =>
    have h2 := hrot _ (if s.fd.isNone then 0 else elapsed) (hopen s h)
    rcases step_write_cases c s ev size elapsed with ⟨s2, i, hr, hfd, e⟩ | e <;> rw [e]
    · rw [hr] at h2
      exact happ _ _ ev size hfd h2
    · exact h2
  | reopen => rw [step_reopen]; exact hopen _ (hclose s h)
  | extRename k =>
    simp only [step]
    split
    · next n _ =>
      by_cases hc : ((lookup s.dir n).isSome && (lookup s.dir (.foreign k)).isNone) = true
      · rw [if_pos hc]; exact hren k rfl s n h
      · rw [if_neg hc]; exact h
    · exact h
  | noFormat => exact h

theorem run_induct {P : St → Prop} {c : Cfg} {ops : List Op} (hstep : ∀ s, ∀ op ∈ ops, P s → P (step c s op).1) :
    ∀ s, P s → P (run c s ops) :=
  fun _ h => List.foldlRecOn ops _ h fun s hs op hop => hstep s op hop hs

end Evl.FileSink
