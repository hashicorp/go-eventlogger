import Evl.Model.Encrypt
/-! M7 `Encrypt`: the two list walks of the flat model (`filterElems`, `filterFields`) are `List.mapM` of their step, so
what holds position by position, and that one failing position fails the whole, come from `mapM_some` / `mapM_none`. -/
namespace Evl.Encrypt

theorem of_ite_eq {α : Type} {c : Prop} [Decidable c] {a b x : α} (h : (if c then a else b) = x) (ha : a ≠ x) : b = x := by
  split at h
  · exact absurd h ha
  · exact h

theorem mapM_some {α β : Type} {f : α → Option β} {l : List α} {l' : List β} (h : l.mapM f = some l') :
    l'.length = l.length ∧ ∀ i (hi : i < l.length) (hl : i < l'.length), f l[i] = some l'[i] := by
  induction l generalizing l' with
  | nil => cases (Option.some.inj h : [] = l'); exact ⟨rfl, fun i hi => absurd hi (Nat.not_lt_zero i)⟩
  | cons x xs ih =>
    simp only [List.mapM_cons, Option.bind_eq_bind, Option.bind_eq_some_iff, Option.pure_def, Option.some.injEq] at h
    obtain ⟨y, hy, ys, hys, rfl⟩ := h
    obtain ⟨hlen, hall⟩ := ih hys
    refine ⟨congrArg Nat.succ hlen, fun i hi hl => ?_⟩
    cases i with
    | zero => exact hy
    | succ j => exact hall j (Nat.lt_of_succ_lt_succ hi) (Nat.lt_of_succ_lt_succ hl)

theorem mapM_none {α β : Type} {f : α → Option β} {x : α} (hx : f x = none) {l : List α} (h : x ∈ l) :
    l.mapM f = none := by
  induction h with
  | head => rw [List.mapM_cons, hx]; rfl
  | tail y _ ih => rw [List.mapM_cons, ih]; cases f y <;> rfl

/-- `action` and the pointer-tag `tagAction` both have this form, with the same `g` (public, or no operation) -/
theorem keep_iff_guard {g : Prop} [Decidable g] {x : Action} (hx : x ≠ .keep) :
    (if g then Action.keep else x) = .keep ↔ g := by
  by_cases h : g
  · simp only [h, if_true]
  · simp only [h, if_false, hx]

theorem action_keep (t : TagInfo) : action t = .keep ↔ t.cls = .pub ∨ t.op = .none := by
  refine keep_iff_guard ?_
  split
  · split <;> nofun
  · split <;> nofun
  · nofun

theorem action_pub {t : TagInfo} (h : t.cls = .pub) : action t = .keep :=
  (action_keep t).mpr (.inl h)

theorem defaulted_ne_none (d op : Op) (hd : d ≠ .none) : defaulted d op ≠ .none := by
  unfold defaulted
  split
  · exact hd
  · assumption

theorem fromTagString_unknown {tag : Bytes} {ov : Overrides} (h0 : lookupOv ov (splitComma tag).1 = none)
    (h1 : (splitComma tag).1 ≠ sPublic) (h2 : (splitComma tag).1 ≠ sSensitive) (h3 : (splitComma tag).1 ≠ sSecret) :
    fromTagString tag ov = { cls := .unknown, op := .unknown } := by
  simp only [fromTagString, h0, h1, h2, h3, if_false]

theorem filterLeaf_cases {k : Keys} {ek : Option EventKeys} {a : Action} {m : Nat} {l : Leaf}
    (h : filterLeaf k ek a m = some l) :
    (a = .keep ∧ l = .plain m) ∨ l = .redacted ∨ (∃ key, l = .enc key m) ∨ ∃ key s i, l = .mac key s i m := by
  cases a with
  | keep => exact .inl ⟨rfl, (Option.some.inj h).symm⟩
  | redact => exact .inr (.inl (Option.some.inj h).symm)
  | encrypt =>
    obtain ⟨key, _, rfl⟩ := Option.map_eq_some_iff.mp h
    exact .inr (.inr (.inl ⟨key, rfl⟩))
  | hmac =>
    obtain ⟨key, _, rfl⟩ := Option.map_eq_some_iff.mp h
    exact .inr (.inr (.inr ⟨key, _, _, rfl⟩))
  | error => cases h

def filterElem (k : Keys) (ek : Option EventKeys) (a : Action) : Option Nat → Option Leaf
  | none => some .nilBytes
  | some m => filterLeaf k ek a m

theorem filterElems_eq (k : Keys) (ek : Option EventKeys) (a : Action) (ms : List (Option Nat)) :
    filterElems k ek a ms = ms.mapM (filterElem k ek a) := by
  induction ms with
  | nil => rfl
  | cons o rest ih =>
    rw [List.mapM_cons]
    cases o with
    | none =>
      rw [filterElems, ih]
      cases rest.mapM (filterElem k ek a) <;> rfl
    | some m =>
      rw [filterElems, ih, filterElem]
      cases filterLeaf k ek a m <;> cases rest.mapM (filterElem k ek a) <;> rfl

theorem filterFields_eq (k : Keys) (ek : Option EventKeys) (ov : Overrides) (fs : List Field) :
    filterFields k ek ov fs = fs.mapM (filterOne k ek ov) := by
  induction fs with
  | nil => rfl
  | cons f fs ih =>
    rw [List.mapM_cons, filterFields, ih]
    cases filterOne k ek ov f <;> cases fs.mapM (filterOne k ek ov) <;> rfl

theorem filterFields_length {k : Keys} {ek : Option EventKeys} {ov : Overrides} {fs : List Field} {ls : List FOut}
    (h : filterFields k ek ov fs = some ls) : ls.length = fs.length :=
  (mapM_some (filterFields_eq k ek ov fs ▸ h)).1

theorem filterFields_none_of_mem {k : Keys} {ek : Option EventKeys} {ov : Overrides} {f : Field}
    (hone : filterOne k ek ov f = none) {fs : List Field} (h : f ∈ fs) : filterFields k ek ov fs = none :=
  filterFields_eq k ek ov fs ▸ mapM_none hone h

theorem filterOne_scalar {k : Keys} {ek : Option EventKeys} {ov : Overrides} {f : Field} {m : Nat}
    (hex : f.exported = true) (hk : f.kind = .str m ∨ f.kind = .bytes (some m)) :
    filterOne k ek ov f = (filterLeaf k ek (action (fromTag f.tag ov)) m).map .one := by
  unfold filterOne
  rcases hk with hk | hk <;> simp only [hex, hk, Bool.not_true, Bool.false_eq_true, if_false]

theorem filterOne_slice {k : Keys} {ek : Option EventKeys} {ov : Overrides} {f : Field} {ms : List (Option Nat)}
    (hex : f.exported = true) (hk : f.kind = .bss ms ∨ ∃ ss, f.kind = .strs ss ∧ ms = ss.map some)
    (hpub : (fromTag f.tag ov).cls ≠ .pub) :
    filterOne k ek ov f = (filterElems k ek (action (fromTag f.tag ov)) ms).map .many := by
  unfold filterOne
  rcases hk with hk | ⟨ss, hk, rfl⟩ <;> simp only [hex, hk, hpub, Bool.not_true, Bool.false_eq_true, if_false]

theorem filterOne_raw {k : Keys} {ek : Option EventKeys} {ov : Overrides} {f : Field}
    (h : f.exported = false ∨ f.kind = .other ∨ f.kind = .bytes none ∨ (fromTag f.tag ov).cls = .pub) :
    filterOne k ek ov f = some (rawField f.kind) := by
  unfold filterOne
  cases hex : f.exported with
  | false => rfl
  | true =>
    rcases h with h | h | h | h
    · cases hex.symm.trans h
    · rw [h]; rfl
    · rw [h]; rfl
    · -- a public string is kept (`filterLeaf` under `keep`), a public slice is not walked at all
      have hk : action (fromTag f.tag ov) = .keep := action_pub h
      cases f.kind with
      | str m => rw [hk]; rfl
      | bytes m => cases m with
        | none => rfl
        | some m => rw [hk]; rfl
      | other => rfl
      | strs ms | bss ms => exact if_pos h

theorem processFlat_filtered {k : Keys} {ek : Option EventKeys} {fails : Bool} {ov : Overrides} {fs : List Field}
    {ls : List FOut} (h : processFlat k ek fails ov fs = .filtered ls) : filterFields k ek ov fs = some ls := by
  have h := of_ite_eq (of_ite_eq (of_ite_eq h nofun) nofun) nofun
  split at h
  · cases h; assumption
  · cases h

end Evl.Encrypt
