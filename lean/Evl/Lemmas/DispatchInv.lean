import Evl.Lemmas.DispatchStep
/-! The protocol invariant `PInv` of M2.  Most of it speaks of one pipeline at a time (`PS.Ok`) and a step
rewrites at most one pipeline: `PInv.frame` reduces preservation to `PS.Ok` of that pipeline's new state plus the
clause tying it to the ranger (`cur ↔ inRoot p`); `move` and `advance` are its instances for a step that
leaves the ranger alone or changes the phase only; `ranger` is for a step that moves the ranger and no pipeline. -/
namespace Evl.Dispatch

/-- the traversal's current `doProcess` is running: the part of `PS.busy` and `PS.wg` that reads the phase -/
def PS.live (x : PS) : Bool :=
  match x.ph with
  | .idle => false
  | .finished => false
  | _ => true

theorem busy_eq (x : PS) : x.busy = (x.live || decide (x.owing > 0) || x.rootOwes) := rfl

/-- the root's `doProcess` of this pipeline is still on the ranger's stack -/
def PS.cur (x : PS) : Prop := x.rootOwes = true ∨ (x.k = 0 ∧ x.live = true)

/-- the traversal has stopped at its node `k`: it offers its status, or is rid of it (`ended` in `DispatchGhost`) -/
def Phase.stopped (ph : Phase) : Prop := ph = .sending ∨ ph = .finishing ∨ ph = .finished

structure PInv (c : Cfg) (s : S) : Prop where
  /-- only the `n` pipelines of the configuration ever move -/
  outside : ∀ p, c.n ≤ p → s.ps p = {}
  /-- a pipeline that was not started is in its initial state (nothing owed, `k = 0`) -/
  idleDef : ∀ p, (s.ps p).ph = .idle → s.ps p = {}
  kbound : ∀ p, p < c.n → (s.ps p).ph ≠ .idle → (s.ps p).k < c.len p
  /-- `rootCur` and `inRoot` are the two halves of `(s.ps p).cur ↔ s.rg = .inRoot p` (`PS.cur` written out): the
  ranger is inside the root's inline `doProcess` exactly while that call has not done its `wg.Done` -/
  rootCur : ∀ p, ((s.ps p).rootOwes = true ∨ ((s.ps p).k = 0 ∧ (s.ps p).live = true)) → s.rg = .inRoot p
  inRoot : ∀ p, s.rg = .inRoot p → p < c.n ∧ ((s.ps p).rootOwes = true ∨ ((s.ps p).k = 0 ∧ (s.ps p).live = true))
  /-- the root owes its `Done` only once it has spawned its child -/
  owesK : ∀ p, (s.ps p).rootOwes = true → (s.ps p).k ≠ 0
  /-- `wg.Wait()` returned: the counter was zero and, the range being over, nothing can raise it again -/
  quiet : (s.rg = .waited ∨ s.rg = .closed) → ∀ p, p < c.n → (s.ps p).busy = false
  /-- the collector left by one of its two arms; this is what lets a blocked sender go on (`C03.busy_progress`) -/
  coll : s.collExited = true → s.ctxDone = true ∨ s.rg = .closed
  /-- `Phase.stopped` written out: a status is only ever offered for the node that ended the traversal -/
  stopsAt : ∀ p, ((s.ps p).ph = .sending ∨ (s.ps p).ph = .finishing ∨ (s.ps p).ph = .finished) →
      stops c p (s.ps p).k (c.out p (s.ps p).k) = true
  decidedOut : ∀ p o, (s.ps p).ph = .decided o → o = c.out p (s.ps p).k

theorem pinv_init (c : Cfg) : PInv c init := by
  constructor <;> simp [init, PS.live, PS.busy]

/-- `live` reads the phase only; `hl` is `rfl` for a concrete phase -/
theorem live_of_ph {x : PS} {ph : Phase} (h : x.ph = ph) (hl : ({ x with ph := ph } : PS).live = true) : x.live = true := by
  subst h; exact hl

theorem live_eq_false {x : PS} : x.live = false ↔ x.ph = .idle ∨ x.ph = .finished := by
  unfold PS.live; cases x.ph <;> simp

theorem not_busy {x : PS} (h : x.busy = false) : x.live = false ∧ x.owing = 0 ∧ x.rootOwes = false := by
  rw [busy_eq] at h
  simp at h
  exact ⟨h.1.1, h.1.2, h.2⟩

theorem busy_of_live {x : PS} (h : x.live = true) : x.busy = true := by rw [busy_eq]; simp [h]

theorem next_of_not_stops {c : Cfg} {p k : Nat} {o : Outcome} (h : stops c p k o = false) (hk : k < c.len p) :
    k + 1 < c.len p :=
  Nat.lt_of_le_of_ne hk (ne_of_beq_false (Bool.or_eq_false_iff.mp h).2)

structure PS.Ok (c : Cfg) (p : Nat) (x : PS) : Prop where
  idleDef : x.ph = .idle → x = {}
  kbound : p < c.n → x.ph ≠ .idle → x.k < c.len p
  owesK : x.rootOwes = true → x.k ≠ 0
  stopsAt : x.ph.stopped → stops c p x.k (c.out p x.k) = true
  decidedOut : ∀ o, x.ph = .decided o → o = c.out p x.k

section
variable {c : Cfg} {s : S}

theorem PInv.ok (hi : PInv c s) (p : Nat) : (s.ps p).Ok c p :=
  ⟨hi.idleDef p, hi.kbound p, hi.owesK p, hi.stopsAt p, hi.decidedOut p⟩

theorem PInv.active (hi : PInv c s) {p : Nat} (hp : p < c.n) (hb : (s.ps p).busy = true) :
    s.rg ≠ .waited ∧ s.rg ≠ .closed :=
  not_or.mp fun h => Bool.false_ne_true ((hi.quiet h p hp).symm.trans hb)

theorem PInv.frame (hi : PInv c s) {p : Nat} {x : PS} {r : Ranger} {i : List (Nat × Nat)} {g : List (Nat × Nat × Bool)}
    (hp : p < c.n) (hx : x.Ok c p) (hcur : x.cur ↔ r = .inRoot p)
    (hrg : ∀ q, q ≠ p → (r = .inRoot q ↔ s.rg = .inRoot q))
    (hact : r ≠ .waited ∧ r ≠ .closed) (hcl : s.rg ≠ .closed) :
    PInv c { s with ps := upd s.ps p x, rg := r, inv := i, got := g } :=
  have ok : ∀ q, (upd s.ps p x q).Ok c q := upd_forall (Q := fun q y => y.Ok c q) (fun q _ => hi.ok q) hx
  { outside := upd_forall (Q := fun q y => c.n ≤ q → y = {}) (fun q _ => hi.outside q) (fun h => absurd hp (Nat.not_lt.mpr h))
    idleDef := fun q => (ok q).idleDef
    kbound := fun q => (ok q).kbound
    owesK := fun q => (ok q).owesK
    stopsAt := fun q => (ok q).stopsAt
    decidedOut := fun q => (ok q).decidedOut
    rootCur := upd_forall (Q := fun q y => y.cur → r = .inRoot q) (fun q h hq => (hrg q h).mpr (hi.rootCur q hq)) hcur.mp
    inRoot := upd_forall (Q := fun q y => r = .inRoot q → q < c.n ∧ y.cur)
      (fun q h hq => hi.inRoot q ((hrg q h).mp hq)) (fun hq => ⟨hp, hcur.mpr hq⟩)
    quiet := fun h => (h.elim hact.1 hact.2).elim
    coll := fun h => Or.inl ((hi.coll h).resolve_right hcl) }

theorem PInv.move (hi : PInv c s) {p : Nat} {x : PS} {i : List (Nat × Nat)} {g : List (Nat × Nat × Bool)}
    (hp : p < c.n) (hb : (s.ps p).busy = true) (hx : x.Ok c p) (hcur : x.cur ↔ (s.ps p).cur) :
    PInv c { s with ps := upd s.ps p x, inv := i, got := g } :=
  have ha := hi.active hp hb
  hi.frame hp hx (hcur.trans ⟨hi.rootCur p, fun h => (hi.inRoot p h).2⟩) (fun _ _ => Iff.rfl) ha ha.2

theorem PS.Ok.setPh {p : Nat} {x : PS} (ok : x.Ok c p) {ph : Phase} (h0 : x.ph ≠ .idle) (h1 : ph ≠ .idle)
    (hst : ph.stopped → stops c p x.k (c.out p x.k) = true)
    (hdec : ∀ o, ph = .decided o → o = c.out p x.k) : PS.Ok c p { x with ph := ph } :=
  ⟨fun h => absurd h h1, fun hp _ => ok.kbound hp h0, ok.owesK, hst, hdec⟩

theorem PS.Ok.finish {p : Nat} {x : PS} (ok : x.Ok c p) (h : x.ph = .finishing) : PS.Ok c p { x with ph := .finished } :=
  ok.setPh (by rw [h]; nofun) nofun (fun _ => ok.stopsAt (.inr (.inl h))) nofun

theorem PS.Ok.calling {p k ow : Nat} {ro : Bool} (hk : k < c.len p) (hro : ro = true → k ≠ 0) :
    PS.Ok c p ⟨.calling, k, ow, ro⟩ where
  idleDef := nofun
  kbound _ _ := hk
  owesK := hro
  stopsAt := nofun
  decidedOut _ := nofun

theorem PInv.advance (hi : PInv c s) {p : Nat} {ph : Phase} {i : List (Nat × Nat)} {g : List (Nat × Nat × Bool)}
    (hp : p < c.n) (hl : (s.ps p).live = true) (hl' : ({ s.ps p with ph := ph } : PS).live = true)
    (hst : ph.stopped → stops c p (s.ps p).k (c.out p (s.ps p).k) = true)
    (hdec : ∀ o, ph = .decided o → o = c.out p (s.ps p).k) :
    PInv c { s with ps := upd s.ps p { s.ps p with ph := ph }, inv := i, got := g } := by
  refine hi.move hp (busy_of_live hl) ((hi.ok p).setPh ?_ ?_ hst hdec) ?_
  · intro h; rw [PS.live, h] at hl; cases hl
  · intro h; rw [PS.live, h] at hl'; cases hl'
  · unfold PS.cur; rw [hl, hl']

theorem PInv.ranger (hi : PInv c s) {r : Ranger} (h1 : ∀ p, s.rg ≠ .inRoot p) (hr : ∀ p, r ≠ .inRoot p)
    (hq : (r = .waited ∨ r = .closed) → ∀ p, p < c.n → (s.ps p).busy = false)
    (hc : s.rg = .closed → r = .closed) : PInv c { s with rg := r } :=
  { hi with
    rootCur := fun p h => absurd (hi.rootCur p h) (h1 p)
    inRoot := fun p h => absurd h (hr p)
    quiet := hq
    coll := fun h => (hi.coll h).imp_right hc }

end

theorem pinv_step {c : Cfg} (hlen : ∀ p, p < c.n → 0 < c.len p) {s s' : S} (hi : PInv c s) (hs : StepI c s s') :
    PInv c s' := by
  induction hs with
  | cancel _ => exact { hi with coll := fun _ => Or.inl rfl }
  | collectCtx _ hd => exact { hi with coll := fun _ => Or.inl hd }
  | collectClosed _ hr => exact { hi with coll := fun _ => Or.inr hr }
  | rangeStop _ hr _ _ _ | rangeEnd hr _ => exact hi.ranger (by rw [hr]; nofun) nofun nofun (by rw [hr]; nofun)
  | waitEnd hr hq => exact hi.ranger (by rw [hr]; nofun) nofun (fun _ => hq) (by rw [hr]; nofun)
  | close hr => exact hi.ranger (by rw [hr]; nofun) nofun (fun _ => hi.quiet (Or.inl hr)) (fun _ => rfl)
  | rangeStart p hr hp h =>
    have hdef := hi.idleDef p h
    refine hi.frame hp (.calling (hlen p hp) ?_) ?_ ?_ ⟨nofun, nofun⟩ (by rw [hr]; nofun)
    · intro ho; rw [hdef] at ho; cases ho
    · exact ⟨fun _ => rfl, fun _ => Or.inr ⟨rfl, rfl⟩⟩
    · intro q hq; simp [hr, Ne.symm hq]
  | ret p hp h =>
    exact hi.advance hp (live_of_ph h rfl) rfl nofun fun o ho => (Phase.decided.inj ho).symm
  | sendTry p o hp h hst =>
    exact hi.advance hp (live_of_ph h rfl) rfl (fun _ => hi.decidedOut p o h ▸ hst) nofun
  | rendezvous p hp h _ | sendAbort p hp h _ =>
    exact hi.advance hp (live_of_ph h rfl) rfl (fun _ => hi.stopsAt p (Or.inl h)) nofun
  | spawnRoot p o hp h hst hk =>
    have hn := next_of_not_stops hst (hi.kbound p hp (by rw [h]; nofun))
    refine hi.move hp (busy_of_live (live_of_ph h rfl)) (.calling (by rw [hk] at hn; exact hn) fun _ => Nat.succ_ne_zero _) ?_
    exact ⟨fun _ => Or.inr ⟨hk, live_of_ph h rfl⟩, fun _ => Or.inl rfl⟩
  | spawn p o hp h hst hk =>
    have hn := next_of_not_stops hst (hi.kbound p hp (by rw [h]; nofun))
    refine hi.move hp (busy_of_live (live_of_ph h rfl)) (.calling hn fun _ => Nat.succ_ne_zero _) ?_
    simp [PS.cur, hk]
  | doneCurRoot p hp h hk hr =>
    have hno : (s.ps p).rootOwes ≠ true := fun ho => hi.owesK p ho hk
    refine hi.frame hp ((hi.ok p).finish h) ?_ ?_ ⟨nofun, nofun⟩ (by rw [hr]; nofun)
    · simp [PS.cur, PS.live, hno]
    · intro q hq; simp [hr, Ne.symm hq]
  | doneCur p hp h hk =>
    refine hi.move hp (busy_of_live (live_of_ph h rfl)) ((hi.ok p).finish h) ?_
    simp [PS.cur, hk]
  | doneOwing p hp h =>
    have ok := hi.ok p
    refine hi.move hp (by rw [busy_eq]; simp [h]) { ok with idleDef := ?_ } Iff.rfl
    intro h'; have := ok.idleDef h'; rw [this] at h; cases h
  | doneRoot p hp h hr =>
    have ok := hi.ok p
    refine hi.frame hp { ok with idleDef := ?_, owesK := nofun } ?_ ?_ ⟨nofun, nofun⟩ (by rw [hr]; nofun)
    · intro h'; have := ok.idleDef h'; rw [this] at h; cases h
    · simp [PS.cur, ok.owesK h]
    · intro q hq; simp [hr, Ne.symm hq]

theorem pinv_reach {c : Cfg} (hlen : ∀ p, p < c.n → 0 < c.len p) {s : S} (h : Reach c s) : PInv c s := by
  induction h with
  | init => exact pinv_init c
  | step l _ hf ih => exact pinv_step hlen ih (fire_sound hf)

end Evl.Dispatch
