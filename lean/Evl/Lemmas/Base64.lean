import Evl.Model.CloudEventsVerify
/-!
# base64url: the strict decoder (M8v) undoes the encoder (M8b) on byte strings

Three bytes are four sextets that join back into them (`sextets_join`), the two middle ones being two-digit
numbers (`divMod_twoDigits`); the alphabet is a table (`b64val_char`).
-/
namespace Evl.CloudEvents
open Evl.Json

theorem b64val_char : ∀ n < 64, b64val (b64char n) = some n := by decide +kernel

theorem divMod_twoDigits {q r m n : Nat} (hq : q < n) (hr : r < m) :
    q * m + r < n * m ∧ (q * m + r) / m = q ∧ (q * m + r) % m = r := by
  refine ⟨Nat.lt_of_lt_of_le (Nat.add_lt_add_left hr _) (Nat.succ_mul q m ▸ Nat.mul_le_mul_right m hq), ?_, ?_⟩
  · rw [Nat.mul_comm, Nat.mul_add_div (Nat.zero_lt_of_lt hr), Nat.div_eq_of_lt hr]; rfl
  · rw [Nat.mul_comm, Nat.mul_add_mod, Nat.mod_eq_of_lt hr]

theorem sextets_join (a b c : Nat) (ha : a < 256) (hb : b < 256) (hc : c < 256) :
    (a / 4 < 64 ∧ a % 4 * 16 + b / 16 < 64 ∧ b % 16 * 4 + c / 64 < 64 ∧ c % 64 < 64) ∧
    a / 4 * 4 + (a % 4 * 16 + b / 16) / 16 = a ∧
    (a % 4 * 16 + b / 16) % 16 * 16 + (b % 16 * 4 + c / 64) / 4 = b ∧
    (b % 16 * 4 + c / 64) % 4 * 64 + c % 64 = c := by
  -- the second sextet is the digits `a % 4`, `b / 16` in base 16, the third `b % 16`, `c / 64` in base 4
  obtain ⟨l2, d2, m2⟩ := divMod_twoDigits (Nat.mod_lt a (by decide : 0 < 4)) (Nat.div_lt_of_lt_mul hb : b / 16 < 16)
  obtain ⟨l3, d3, m3⟩ := divMod_twoDigits (Nat.mod_lt b (by decide : 0 < 16)) (Nat.div_lt_of_lt_mul hc : c / 64 < 4)
  rw [d2, m2, d3, m3]
  exact ⟨⟨Nat.div_lt_of_lt_mul ha, l2, l3, Nat.mod_lt _ (by decide)⟩,
    Nat.div_add_mod' a 4, Nat.div_add_mod' b 16, Nat.div_add_mod' c 64⟩

/-- **base64url round trip** (C18): decoding what the encoder wrote for a byte string gives it back -/
theorem b64dec_b64 : ∀ (x : Bytes), (∀ b ∈ x, b < 256) → b64dec (b64 x) = some x := by
  intro x
  induction x using b64.induct with
  | case1 a b c rest ih =>
    intro h
    obtain ⟨ha, h⟩ := List.forall_mem_cons.mp h
    obtain ⟨hb, h⟩ := List.forall_mem_cons.mp h
    obtain ⟨hc, h⟩ := List.forall_mem_cons.mp h
    obtain ⟨⟨h0, h1, h2, h3⟩, ea, eb, ec⟩ := sextets_join a b c ha hb hc
    rw [b64, b64dec, b64val_char _ h0, b64val_char _ h1, b64val_char _ h2, b64val_char _ h3, ih h]
    simp only [ea, eb, ec]
  | case2 a b =>
    -- two bytes, one byte: the same arithmetic with zero for the missing ones; the padding bits are zero
    intro h
    obtain ⟨ha, h⟩ := List.forall_mem_cons.mp h
    obtain ⟨hb, h⟩ := List.forall_mem_cons.mp h
    obtain ⟨⟨h0, h1, h2, _⟩, ea, eb, _⟩ := sextets_join a b 0 ha hb (by decide)
    simp only [Nat.zero_div, Nat.add_zero] at h2 eb
    rw [b64, b64dec, b64val_char _ h0, b64val_char _ h1, b64val_char _ h2]
    simp only [ea, eb, Nat.mul_mod_left, if_true]
  | case3 a =>
    intro h
    obtain ⟨⟨h0, h1, _, _⟩, ea, _, _⟩ := sextets_join a 0 0 (h a List.mem_cons_self) (by decide) (by decide)
    simp only [Nat.zero_div, Nat.add_zero] at h1 ea
    rw [b64, b64dec, b64val_char _ h0, b64val_char _ h1]
    simp only [ea, Nat.mul_mod_left, if_true]
  | case4 => intro _; rfl

theorem b64char_ascii (n : Nat) : b64char n < 0x80 := by
  fun_cases b64char n <;> omega

theorem b64_ascii (x : Bytes) : ∀ c ∈ b64 x, c < 0x80 := by
  induction x using b64.induct with
  | case1 a b c rest ih => simp only [b64, List.forall_mem_cons, b64char_ascii, true_and]; exact ih
  | case2 | case3 => simp only [b64, List.forall_mem_cons, b64char_ascii, true_and]; exact nofun
  | case4 => exact nofun

theorem b64_nonempty (x : Bytes) (h : x ≠ []) : b64 x ≠ [] := by
  fun_cases b64 x
  case case4 => exact absurd rfl h
  all_goals exact List.cons_ne_nil _ _

end Evl.CloudEvents
