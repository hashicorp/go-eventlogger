import Evl.Model.Registry
import Evl.Lemmas.Keyed
/-! M1 `Registry`, definition by definition.  The node map is an association list in the sense of
`Lemmas/Keyed` (`lookupNode`, `putNode`, `eraseNode` unfold to its forms) and the pipeline list is keyed by `key`
(`key_eq_iff`), so lookup and membership facts are instances of `Keyed.*`.  `release`, `acquire` and the kept half
of `detachAll` are one map, `setRefs`, that rewrites `refs` and nothing else (`mem_setRefs`). -/
namespace Evl.Registry

theorem lookupNode_isSome_iff {ns : List (Nat × NodeEntry)} {id : Nat} :
    (lookupNode ns id).isSome ↔ ∃ e, (id, e) ∈ ns :=
  ⟨fun h => (Option.isSome_iff_exists.mp h).imp fun _ => Keyed.assoc_eq_some,
    fun ⟨e, he⟩ => Option.isSome_iff_ne_none.mpr fun hl => Keyed.assoc_eq_none hl e he⟩

theorem mem_eraseNode {ns : List (Nat × NodeEntry)} {id : Nat} {x : Nat × NodeEntry} :
    x ∈ eraseNode ns id ↔ x ∈ ns ∧ x.1 ≠ id := by
  simp [eraseNode]

theorem lookupNode_eraseNode {ns : List (Nat × NodeEntry)} {id : Nat} : lookupNode (eraseNode ns id) id = none :=
  congrArg _ (Keyed.find?_filter_not (fun x : Nat × NodeEntry => x.1 == id) ns)

theorem mem_putNode {ns : List (Nat × NodeEntry)} {id : Nat} {e : NodeEntry} {x : Nat × NodeEntry} :
    x ∈ putNode ns id e ↔ (x ∈ ns ∧ x.1 ≠ id) ∨ x = (id, e) := by
  simp [putNode, mem_eraseNode]

theorem lookupGraph_ty {gs : List Graph} {t : Nat} {g : Graph} (h : lookupGraph gs t = some g) : g.ty = t := by
  simpa using List.find?_some h

theorem lookupGraph_map {gs : List Graph} {f : Graph → Graph} (hf : ∀ g, (f g).ty = g.ty) {t : Nat} :
    lookupGraph (gs.map f) t = (lookupGraph gs t).map f := by
  unfold lookupGraph
  rw [List.find?_map]
  exact congrArg (fun q => (gs.find? q).map f) (funext fun g => congrArg (· == t) (hf g))

theorem lookupGraph_ensure (gs : List Graph) (ty t : Nat) :
    lookupGraph (ensureGraph gs ty) t =
      (lookupGraph gs t).or (if t = ty then some { ty := ty, thr := 0, thrSinks := 0 } else none) := by
  unfold ensureGraph
  cases h2 : lookupGraph gs ty with
  | some g0 =>
    cases h3 : lookupGraph gs t with
    | some g => rfl
    | none => exact (if_neg fun h => by rw [h, h2] at h3; cases h3).symm
  | none =>
    unfold lookupGraph
    rw [List.find?_append, List.find?_singleton]
    simp only [beq_iff_eq, eq_comm (a := ty)]

theorem lookupGraph_ensure_self {gs : List Graph} {ty : Nat} :
    (lookupGraph (ensureGraph gs ty) ty).isSome = true := by
  rw [lookupGraph_ensure, if_pos rfl]
  cases lookupGraph gs ty <;> rfl

theorem lookupGraph_ensure_mono {gs : List Graph} (ty t : Nat) (h : (lookupGraph gs t).isSome = true) :
    (lookupGraph (ensureGraph gs ty) t).isSome = true := by
  obtain ⟨g, hg⟩ := Option.isSome_iff_exists.mp h
  rw [lookupGraph_ensure, hg]
  rfl

/-- lookup in the graph list a threshold setter (`stepSetThr`, `stepSetThrSinks`) leaves -/
theorem lookupGraph_edit (gs : List Graph) (ty : Nat) (f : Graph → Graph) (hf : ∀ g, (f g).ty = g.ty) (t : Nat) :
    lookupGraph ((ensureGraph gs ty).map (fun g => if g.ty == ty then f g else g)) t =
      if t = ty then some (f ((lookupGraph gs ty).getD { ty := ty, thr := 0, thrSinks := 0 }))
      else lookupGraph gs t := by
  -- a graph found under `t` has type `t`: the map's test is one on the key looked up
  rw [lookupGraph_map (by intro g; split; exact hf g; rfl),
    Option.map_congr (g := fun g => if t = ty then f g else g) fun g hg => by simp only [lookupGraph_ty hg, beq_iff_eq],
    lookupGraph_ensure]
  by_cases htt : t = ty
  · subst htt
    simp only [if_true, Option.or_some, Option.map_some]
  · simp only [if_neg htt, Option.or_none, Option.map_id']

theorem lookupGraph_edit_mono {gs : List Graph} {ty : Nat} {f : Graph → Graph} (hf : ∀ g, (f g).ty = g.ty) (t : Nat)
    (h : (lookupGraph gs t).isSome = true) :
    (lookupGraph ((ensureGraph gs ty).map (fun g => if g.ty == ty then f g else g)) t).isSome = true := by
  rw [lookupGraph_edit _ _ _ hf]
  split
  · rfl
  · exact h

def key (p : Pipe) : Nat × Nat := (p.ty, p.pid)

theorem key_eq_iff (p : Pipe) (ty pid : Nat) : (p.ty == ty && p.pid == pid) = true ↔ key p = (ty, pid) := by
  simp [key]

theorem mem_erasePipe {ps : List Pipe} {ty pid : Nat} {p : Pipe} :
    p ∈ erasePipe ps ty pid ↔ p ∈ ps ∧ key p ≠ (ty, pid) := by
  unfold erasePipe
  rw [List.mem_filter, Bool.not_eq_true', ← Bool.not_eq_true, key_eq_iff]

theorem lookupPipe_some {ps : List Pipe} {ty pid : Nat} {p : Pipe} (h : lookupPipe ps ty pid = some p) :
    p ∈ ps ∧ key p = (ty, pid) := by
  have hp := List.find?_some h
  exact ⟨List.mem_of_find?_eq_some h, (key_eq_iff p ty pid).mp hp⟩

theorem lookupPipe_of_mem {ps : List Pipe} (hnd : (ps.map key).Nodup) {p : Pipe} (h : p ∈ ps) :
    lookupPipe ps p.ty p.pid = some p :=
  Keyed.find?_of_mem_nodup key (fun q => key_eq_iff q _ _) hnd h rfl

theorem lookupPipe_erasePipe {ps : List Pipe} {ty pid : Nat} : lookupPipe (erasePipe ps ty pid) ty pid = none :=
  Keyed.find?_filter_not _ ps

/-- the number of pipelines that list the node id, each once however often it names it (`flatten`): what
`nodeUsage.referenceCount` should be -/
def listing (ps : List Pipe) (id : Nat) : Nat := ps.countP (fun p => p.ids.contains id)

theorem listing_zero_iff {ps : List Pipe} {id : Nat} :
    listing ps id = 0 ↔ ∀ p ∈ ps, p.ids.contains id = false := by
  unfold listing
  simp only [List.countP_eq_zero, Bool.not_eq_true]

theorem erasePipe_of_none {ps : List Pipe} {ty pid : Nat} (h : lookupPipe ps ty pid = none) :
    erasePipe ps ty pid = ps :=
  List.filter_eq_self.mpr fun p hp => by rw [Bool.not_eq_true', ← Bool.not_eq_true]; exact List.find?_eq_none.mp h p hp

theorem listing_erasePipe {ps : List Pipe} (hnd : (ps.map key).Nodup) {ty pid : Nat} {o : Pipe}
    (h : lookupPipe ps ty pid = some o) (id : Nat) :
    listing ps id = listing (erasePipe ps ty pid) id + if o.ids.contains id then 1 else 0 := by
  have hperm := List.filter_append_perm (fun p : Pipe => p.ty == ty && p.pid == pid) ps
  rw [Keyed.filter_of_mem_nodup key (fun q => key_eq_iff q ty pid) hnd (lookupPipe_some h).1 (lookupPipe_some h).2] at hperm
  unfold listing erasePipe
  rw [← hperm.countP_eq, List.countP_append, List.countP_singleton, Nat.add_comm]

theorem keys_erasePipe_append_nodup {ps : List Pipe} (h : (ps.map key).Nodup) (p : Pipe) :
    ((erasePipe ps p.ty p.pid ++ [p]).map key).Nodup :=
  Keyed.nodup_filter_append key (fun q => key_eq_iff q p.ty p.pid) h rfl

def setRefs (f : Nat → NodeEntry → Nat) (ns : List (Nat × NodeEntry)) : List (Nat × NodeEntry) :=
  ns.map (fun x => (x.1, { x.2 with refs := f x.1 x.2 }))

theorem mem_setRefs {f : Nat → NodeEntry → Nat} {ns : List (Nat × NodeEntry)} {id : Nat} {e : NodeEntry} :
    (id, e) ∈ setRefs f ns ↔ ∃ e0, (id, e0) ∈ ns ∧ e = { e0 with refs := f id e0 } := by
  unfold setRefs
  rw [List.mem_map]
  constructor
  · rintro ⟨⟨i0, e0⟩, hm, heq⟩
    cases heq
    exact ⟨e0, hm, rfl⟩
  · rintro ⟨e0, hm, rfl⟩
    exact ⟨(id, e0), hm, rfl⟩

/-- the guard `refs > 0` of `releaseNodes` is what subtraction on `Nat` does anyway -/
theorem release_eq (ns : List (Nat × NodeEntry)) (ids : List Nat) :
    release ns ids = setRefs (fun id e => if ids.contains id then e.refs - 1 else e.refs) ns := by
  apply List.map_congr_left
  intro ⟨id, _, _, _, _, r, _⟩ _
  dsimp only
  cases ids.contains id with
  | false => rfl
  | true => cases r <;> rfl

theorem acquire_eq (ns : List (Nat × NodeEntry)) (ids : List Nat) :
    acquire ns ids = setRefs (fun id e => if ids.contains id then e.refs + 1 else e.refs) ns := by
  apply List.map_congr_left
  intro x _
  dsimp only
  split <;> rfl

theorem detachAll_kept_eq (ns : List (Nat × NodeEntry)) (ids : List Nat) :
    (detachAll ns ids).1 = release (ns.filter (fun x => !(ids.contains x.1 && x.2.refs ≤ 1))) ids := by
  rw [release_eq]
  apply List.map_congr_left
  intro x _
  dsimp only
  split <;> rfl

theorem keys_release (ns : List (Nat × NodeEntry)) (ids : List Nat) :
    (release ns ids).map (·.1) = ns.map (·.1) := by
  apply Keyed.map_map_ite
  exact fun _ => rfl

theorem keys_acquire (ns : List (Nat × NodeEntry)) (ids : List Nat) :
    (acquire ns ids).map (·.1) = ns.map (·.1) := by
  apply Keyed.map_map_ite
  exact fun _ => rfl

theorem mem_release {ns : List (Nat × NodeEntry)} {ids : List Nat} {id : Nat} {e : NodeEntry} :
    (id, e) ∈ release ns ids ↔
      ∃ e0, (id, e0) ∈ ns ∧ e = { e0 with refs := if ids.contains id then e0.refs - 1 else e0.refs } := by
  rw [release_eq]
  exact mem_setRefs

theorem mem_acquire {ns : List (Nat × NodeEntry)} {ids : List Nat} {id : Nat} {e : NodeEntry} :
    (id, e) ∈ acquire ns ids ↔
      ∃ e0, (id, e0) ∈ ns ∧ e = { e0 with refs := if ids.contains id then e0.refs + 1 else e0.refs } := by
  rw [acquire_eq]
  exact mem_setRefs

theorem mem_detach_kept {ns : List (Nat × NodeEntry)} {ids : List Nat} {id : Nat} {e : NodeEntry} :
    (id, e) ∈ (detachAll ns ids).1 ↔
      ∃ e0, (id, e0) ∈ ns ∧ ¬ (id ∈ ids ∧ e0.refs ≤ 1) ∧
        e = { e0 with refs := if ids.contains id then e0.refs - 1 else e0.refs } := by
  rw [detachAll_kept_eq, mem_release]
  simp only [List.mem_filter, Bool.not_eq_true', ← Bool.not_eq_true, Bool.and_eq_true, decide_eq_true_eq, and_assoc,
    List.contains_iff_mem]

theorem mem_detach_gone {ns : List (Nat × NodeEntry)} {ids : List Nat} {x : Nat × NodeEntry} :
    x ∈ (detachAll ns ids).2 ↔ x ∈ ns ∧ x.1 ∈ ids ∧ x.2.refs ≤ 1 := by
  unfold detachAll
  simp only [List.mem_filter, Bool.and_eq_true, decide_eq_true_eq, List.contains_iff_mem]

theorem keys_releaseOld (ns : List (Nat × NodeEntry)) (o : Option Pipe) :
    (releaseOld ns o).map (·.1) = ns.map (·.1) := by
  cases o with
  | none => rfl
  | some o => exact keys_release ns o.ids

theorem registered_congr {ns ns' : List (Nat × NodeEntry)} (h : ns'.map (·.1) = ns.map (·.1)) {id : Nat} :
    (∃ e, (id, e) ∈ ns') ↔ ∃ e, (id, e) ∈ ns := by
  have keys : ∀ l : List (Nat × NodeEntry), id ∈ l.map (·.1) ↔ ∃ e, (id, e) ∈ l := fun l =>
    List.mem_map.trans ⟨fun ⟨⟨_, e⟩, he, rfl⟩ => ⟨e, he⟩, fun ⟨e, he⟩ => ⟨(id, e), he, rfl⟩⟩
  rw [← keys, ← keys, h]

theorem effPol_invalid_iff (os : List PolOpt) : effPol os = .invalid ↔ ∃ o ∈ os, o.pol = .invalid := by
  induction os with
  | nil => simp [effPol]
  | cons o rest ih =>
    rw [effPol]
    simp only [List.mem_cons, exists_eq_or_imp, ← ih]
    by_cases ho : o.pol = .invalid
    · simp [ho]
    · rw [if_neg ho]
      cases effPol rest with
      | dflt => cases o.own <;> simp [ho]
      | invalid => simp
      | allow | deny => simp [ho]

theorem validateChain_append (par : Option Nat) (pre : List Nat) (f s : Nat) :
    validateChain par (pre ++ [f, s]) = validateChain (some f) [s] := by
  induction pre generalizing par with
  | nil => rfl
  | cons a pre ih =>
    cases pre with
    | nil => rfl
    | cons c pre' => exact ih (some a)

theorem validateChain_single (par : Option Nat) (t : Nat) :
    validateChain par [t] = none ↔ t = 3 ∧ (par = some 2 ∨ par = some 4) := by
  unfold validateChain
  by_cases ht : t = 3
  · subst ht
    cases par with
    | none => simp
    | some pt => simp [Decidable.or_iff_not_imp_left]
  · simp [ht]

/-- the second disjunct, a lone sink under a formatter(-filter) parent, never arises from `RegisterPipeline`,
which starts from no parent -/
theorem validateChain_flat (tys : List Nat) (par : Option Nat) (hne : tys ≠ []) :
    validateChain par tys = none ↔
      (∃ pre f, tys = pre ++ [f, 3] ∧ (f = 2 ∨ f = 4)) ∨ (tys = [3] ∧ (par = some 2 ∨ par = some 4)) := by
  rcases List.eq_nil_or_concat tys with rfl | ⟨ini, s, rfl⟩
  · exact absurd rfl hne
  rcases List.eq_nil_or_concat ini with rfl | ⟨pre, f, rfl⟩
  · rw [List.concat_eq_append, List.nil_append, validateChain_single]
    constructor
    · rintro ⟨rfl, hp⟩
      exact Or.inr ⟨rfl, hp⟩
    · rintro (⟨pre, f, h, _⟩ | ⟨h, hp⟩)
      · exact absurd (congrArg List.length h) (by simp)
      · exact ⟨by simpa using h, hp⟩
  · rw [List.concat_eq_append, List.concat_eq_append, List.append_assoc, List.singleton_append,
      validateChain_append, validateChain_single]
    constructor
    · rintro ⟨rfl, hf⟩
      exact Or.inl ⟨pre, f, rfl, by simpa using hf⟩
    · rintro (⟨pre', f', h, hf⟩ | ⟨h, _⟩)
      · obtain ⟨rfl, h2⟩ := List.append_inj' h rfl
        cases h2
        exact ⟨rfl, by simpa using hf⟩
      · exact absurd (congrArg List.length h) (by simp)

theorem validateChain_map_none_iff {α : Type} (g : α → Nat) (l : List α) (hne : l ≠ []) :
    validateChain none (l.map g) = none ↔ ∃ pre f s, l = pre ++ [f, s] ∧ g s = 3 ∧ (g f = 2 ∨ g f = 4) := by
  rw [validateChain_flat _ none (by simpa using hne)]
  constructor
  · rintro (⟨pre, f, hsplit, hf⟩ | ⟨_, hp⟩)
    · obtain ⟨pre', last, rfl, rfl, hlast⟩ := List.map_eq_append_iff.mp hsplit
      obtain ⟨f', rest, rfl, rfl, hrest⟩ := List.map_eq_cons_iff.mp hlast
      obtain ⟨s', tl, rfl, hs, hnil⟩ := List.map_eq_cons_iff.mp hrest
      rw [List.map_eq_nil_iff.mp hnil]
      exact ⟨pre', f', s', rfl, hs, hf⟩
    · rcases hp with hp | hp <;> cases hp
  · rintro ⟨pre, f, s, rfl, hs, hf⟩
    exact Or.inl ⟨pre.map g, g f, by simp [hs], hf⟩

/-- the second entry of the reversed list is the leaf's parent: `par` itself when `tys` is a single node -/
theorem validateChain_none_iff (tys : List Nat) (par : Option Nat) (hne : tys ≠ []) :
    validateChain par tys = none ↔
      tys.getLast? = some 3 ∧
      (match (par :: tys.map some).reverse with
        | _ :: some pt :: _ => pt = 2 ∨ pt = 4
        | _ => False) := by
  rw [validateChain_flat tys par hne]
  constructor
  · rintro (⟨pre, f, rfl, hf⟩ | ⟨rfl, hp⟩)
    · rw [List.map_append, List.reverse_cons, List.reverse_append]; exact ⟨by simp, hf⟩
    · rcases hp with rfl | rfl
      · exact ⟨rfl, Or.inl rfl⟩
      · exact ⟨rfl, Or.inr rfl⟩
  · rintro ⟨hlast, hm⟩
    obtain ⟨ys, rfl⟩ := List.getLast?_eq_some_iff.mp hlast
    rcases List.eq_nil_or_concat ys with rfl | ⟨pre, f, rfl⟩
    · cases par with
      | none => exact hm.elim
      | some pt => exact Or.inr ⟨rfl, hm.imp (congrArg some) (congrArg some)⟩
    · exact Or.inl ⟨pre, f, by simp, by simpa using hm⟩

theorem resolve_cons_some {ns : List (Nat × NodeEntry)} {id : Nat} {rest : List Nat} {bs : List Bound} :
    resolve ns (id :: rest) = some bs ↔
      ∃ e bs', lookupNode ns id = some e ∧ resolve ns rest = some bs' ∧
        bs = { id := id, inst := e.inst, ty := e.ty, beh := e.beh } :: bs' := by
  rw [resolve]
  cases lookupNode ns id with
  | none => simp
  | some e =>
    cases resolve ns rest with
    | none => simp
    | some bs' => simp [eq_comm]

theorem resolve_ids {ns : List (Nat × NodeEntry)} {ids : List Nat} {bs : List Bound}
    (h : resolve ns ids = some bs) : bs.map (·.id) = ids := by
  induction ids generalizing bs with
  | nil => cases h; rfl
  | cons id rest ih =>
    obtain ⟨e, bs', _, hr, rfl⟩ := resolve_cons_some.mp h
    rw [List.map_cons, ih hr]

theorem resolve_isSome_iff {ns : List (Nat × NodeEntry)} {ids : List Nat} :
    (resolve ns ids).isSome = true ↔ ∀ id ∈ ids, (lookupNode ns id).isSome = true := by
  induction ids with
  | nil => simp [resolve]
  | cons id rest ih =>
    rw [List.forall_mem_cons, ← ih, resolve]
    cases lookupNode ns id with
    | none => simp
    | some e => cases resolve ns rest <;> simp

/-- the default `0` is never used: every id resolves (`C05.tyOf_getD` removes it again) -/
theorem resolve_tys {ns : List (Nat × NodeEntry)} {ids : List Nat} {bs : List Bound}
    (h : resolve ns ids = some bs) :
    bs.map (·.ty) = ids.map (fun id => ((lookupNode ns id).map (·.ty)).getD 0) := by
  induction ids generalizing bs with
  | nil => cases h; rfl
  | cons id rest ih =>
    obtain ⟨e, bs', hl, hr, rfl⟩ := resolve_cons_some.mp h
    rw [List.map_cons, List.map_cons, ih hr, hl]
    rfl

theorem resolve_registered {ns : List (Nat × NodeEntry)} {ids : List Nat} {bs : List Bound}
    (h : resolve ns ids = some bs) : ∀ id ∈ ids, ∃ e, (id, e) ∈ ns :=
  fun id hid => lookupNode_isSome_iff.mp (resolve_isSome_iff.mp (by rw [h]; rfl) id hid)

theorem reopenChain_cons (f : Nat) (n : Bound) (rest : List Bound) :
    reopenChain f (n :: rest) =
      if f ≠ 0 ∧ n.inst = f then ([n.inst], true)
      else (n.inst :: (reopenChain f rest).1, (reopenChain f rest).2) := by
  rw [reopenChain]
  simp only [Bool.and_eq_true, bne_iff_ne, beq_iff_eq]

theorem reopenChain_ok (f : Nat) (ns : List Bound) (h : f = 0 ∨ ∀ n ∈ ns, n.inst ≠ f) :
    reopenChain f ns = (ns.map (·.inst), false) := by
  induction ns with
  | nil => rfl
  | cons n rest ih =>
    rw [reopenChain_cons, if_neg fun ⟨h0, hn⟩ => h.elim h0 fun h => h n List.mem_cons_self hn,
      ih (h.imp_right fun h m hm => h m (List.mem_cons_of_mem _ hm))]
    rfl

theorem reopenChain_fail (f : Nat) (ns : List Bound) (hf : f ≠ 0) (h : ∃ n ∈ ns, n.inst = f) :
    (reopenChain f ns).2 = true ∧ f ∈ (reopenChain f ns).1 := by
  obtain ⟨m, hm, hmf⟩ := h
  induction ns with
  | nil => exact nomatch hm
  | cons n rest ih =>
    rw [reopenChain_cons]
    by_cases hc : n.inst = f
    · rw [if_pos ⟨hf, hc⟩, hc]
      exact ⟨rfl, List.mem_singleton.mpr rfl⟩
    · rw [if_neg fun h => hc h.2]
      rcases List.mem_cons.mp hm with rfl | hm
      · exact absurd hmf hc
      · exact (ih hm).imp_right (List.mem_cons_of_mem _)

theorem run_induct {P : Broker → Prop} {ops : List Op} (hstep : ∀ b op, P b → P (step b op).1) :
    ∀ b, P b → P (run b ops) :=
  fun _ h => List.foldlRecOn ops _ h fun b hb op _ => hstep b op hb

end Evl.Registry
