import Evl.Model.EncryptTag
import Evl.Lemmas.EncryptTree
/-! M7g `EncryptTag`: with protecting pointer tags only, whatever `filterTaggable` has marked holds nothing readable
(`invI`), the invariant survives every tag (`setPath_inv`, `applyTags_inv`), and the walk of `processUnfiltered` keeps the
shape and, over an invariant state, leaves nothing readable (`filtT_spec`); away from the marks that walk is M7t's
`filtEntry`. -/
namespace Evl.EncryptTag
open Evl.Encrypt Evl.EncryptTree

/-- what a protecting pointer tag leaves at its pointer: nothing readable, and no container -/
def settled : V → Bool
  | .leaf l => cleanLeaf l
  | .ptr (.leaf l) => cleanLeaf l      -- a string held through a pointer, filtered in place
  | .nilPtr => true
  | _ => false

/-- `settled`, behind the pointer -/
def settledP : V → Bool
  | .leaf l => cleanLeaf l
  | _ => false

theorem tagAction_keep_iff (t : TagInfo) : tagAction t = .keep ↔ action t = .keep := by
  refine Iff.trans (keep_iff_guard ?_) (action_keep t).symm
  split
  · split <;> nofun
  · split <;> nofun
  · nofun

mutual
/-- the keys of a map are distinct (Go maps), also in the maps a pointer can go through -/
def keysOK (seen : List Nat) : Items → Bool
  | .nil => true
  | .cons (.key k) v rest => !seen.contains k && keysOKV v && keysOK (k :: seen) rest
  | .cons _ _ _ => false
def keysOKV : V → Bool
  | .map es => keysOK [] es
  | .ptr w => keysOKP w
  | _ => true
def keysOKP : V → Bool
  | .map es => keysOK [] es
  | _ => true
end

mutual
/-- the invariant of `filterTaggable` when every tag protects: a marked key holds a settled value,
everything else is guarded the way a value of an untagged map has to be (M7t) -/
def invI (c : Ctx) (marks : List (List Nat)) : Items → Bool
  | .nil => true
  | .cons (.key k) v rest => invV c (subMarks k marks) (marks.contains [k]) v && invI c marks rest
  | .cons _ _ _ => false
def invV (c : Ctx) (sub : List (List Nat)) (marked : Bool) : V → Bool
  | .map es => !marked && (if sub.isEmpty then guardedEntries c es else invI c sub es)
  | .ptr w => if marked then settledP w else (if sub.isEmpty then guardedEntryTarget c w else invP c sub w)
  | .leaf l => !marked || cleanLeaf l
  | .leaves _ => !marked
  | .struct fs => !marked && guardedFields c true fs
  | .slice vs => !marked && guardedMapSlice c vs
  | .iface v => !marked && guardedEntry c v
  | .nilPtr => true
def invP (c : Ctx) (sub : List (List Nat)) : V → Bool
  | .map es => invI c sub es
  | w => guardedEntryTarget c w
end

theorem subMarks_nil (k : Nat) : subMarks k [] = [] := rfl

theorem subMarks_append (k : Nat) (a b : List (List Nat)) : subMarks k (a ++ b) = subMarks k a ++ subMarks k b :=
  List.filterMap_append

theorem subMarks_single_other {j : Nat} {p : List Nat} (h : p.head? ≠ some j) : subMarks j [p] = [] := by
  rcases p with _ | ⟨k, _ | _⟩
  · rfl
  · rfl
  · simp only [subMarks, List.filterMap_cons, if_neg fun e : k = j => h (e ▸ rfl), List.filterMap_nil]

theorem marks_snoc_other (marks : List (List Nat)) {j : Nat} {p : List Nat} (h : p.head? ≠ some j) :
    subMarks j (marks ++ [p]) = subMarks j marks ∧ (marks ++ [p]).contains [j] = marks.contains [j] := by
  have hp : [j] ≠ p := fun e => h (e ▸ rfl)
  refine ⟨?_, by simp only [List.contains_eq_mem, List.mem_append, List.mem_singleton, hp, or_false]⟩
  rw [subMarks_append, subMarks_single_other h, List.append_nil]

theorem marks_snoc_below (marks : List (List Nat)) (k k2 : Nat) (q : List Nat) :
    subMarks k (marks ++ [k :: k2 :: q]) = subMarks k marks ++ [k2 :: q] ∧
      (marks ++ [k :: k2 :: q]).contains [k] = marks.contains [k] := by
  refine ⟨?_, by simp only [List.contains_eq_mem, List.mem_append, List.mem_singleton, List.cons.injEq, reduceCtorEq,
    and_false, or_false]⟩
  rw [subMarks_append]
  simp only [subMarks, List.filterMap_cons, if_true, List.filterMap_nil]

theorem keysOK_induct {motive : (es : Items) → (seen : List Nat) → keysOK seen es = true → Prop}
    (nil : ∀ seen h, motive .nil seen h)
    (cons : ∀ seen k v rest h, k ∉ seen → keysOKV v = true → (h' : keysOK (k :: seen) rest = true) →
      motive rest (k :: seen) h' → motive (.cons (.key k) v rest) seen h)
    (es : Items) (seen : List Nat) (ho : keysOK seen es = true) : motive es seen ho := by
  induction es using items_induct generalizing seen with
  | nil => exact nil seen ho
  | cons h v rest ih =>
    cases h with
    | key k =>
      have ho' := ho
      simp only [keysOK, Bool.and_eq_true, Bool.not_eq_true', List.contains_eq_mem, decide_eq_false_iff_not] at ho'
      exact cons seen k v rest ho ho'.1.1 ho'.1.2 ho'.2 (ih (k :: seen) ho'.2)
    | _ => cases ho

/-- a new mark that starts with a key the map does not have changes nothing.  That `k` is no key of `es` is said
through the walk of `keysOK`: `k` is among the keys `seen` before `es`, and those are distinct from the keys of `es` -/
theorem invI_snoc {c : Ctx} {marks : List (List Nat)} {k : Nat} {p : List Nat} (hp : p.head? = some k)
    {es : Items} {seen : List Nat} (hk : k ∈ seen) (ho : keysOK seen es = true) (hi : invI c marks es = true) :
    invI c (marks ++ [p]) es = true := by
  induction es, seen, ho using keysOK_induct with
  | nil => rfl
  | cons seen k' v rest _ hk' _ _ ih =>
    obtain ⟨h1, h2⟩ := (Bool.and_eq_true _ _).mp hi
    obtain ⟨e1, e2⟩ := marks_snoc_other marks (j := k') fun e => hk' (Option.some.inj (hp.symm.trans e) ▸ hk)
    exact (Bool.and_eq_true _ _).mpr ⟨e1 ▸ e2 ▸ h1, ih (List.mem_cons_of_mem _ hk) h2⟩

/-- what the invariant says at key `k`, and the update rule there, from one induction: on a pointer that goes on through
`k`, `setPath_inv` gets the premise of the second out of the first -/
theorem inv_at {c : Ctx} {marks : List (List Nat)} {k : Nat} {v0 : V} {es : Items} {seen : List Nat}
    (hf : find k es = some v0) (ho : keysOK seen es = true) (hi : invI c marks es = true) :
    (invV c (subMarks k marks) (marks.contains [k]) v0 = true ∧ keysOKV v0 = true) ∧
    ∀ (p : List Nat) (f : V → V), p.head? = some k →
      invV c (subMarks k (marks ++ [p])) ((marks ++ [p]).contains [k]) (f v0) = true ∧ keysOKV (f v0) = true →
      invI c (marks ++ [p]) (setIn k f es) = true ∧ keysOK seen (setIn k f es) = true := by
  induction es, seen, ho using keysOK_induct with
  | nil => cases hf
  | cons seen k' v rest _ hk' hv ho ih =>
    simp only [invI, Bool.and_eq_true] at hi
    have hs : (!seen.contains k') = true := by simpa using hk'
    by_cases hk : k' = k
    · subst hk
      simp only [find, if_true, Option.some.injEq] at hf
      subst hf
      refine ⟨⟨hi.1, hv⟩, fun p f hp ⟨g1, g2⟩ => ?_⟩
      simp only [setIn, if_true, invI, keysOK, Bool.and_eq_true]
      exact ⟨⟨g1, invI_snoc hp List.mem_cons_self ho hi.2⟩, ⟨hs, g2⟩, ho⟩
    · simp only [find, hk, if_false] at hf
      obtain ⟨r0, r⟩ := ih hf hi.2
      refine ⟨r0, fun p f hp g => ?_⟩
      obtain ⟨e1, e2⟩ := marks_snoc_other marks (j := k') fun e => hk (Option.some.inj (hp.symm.trans e)).symm
      simp only [setIn, hk, if_false, invI, keysOK, Bool.and_eq_true, e1, e2]
      exact ⟨⟨hi.1, (r p f hp g).1⟩, ⟨hs, hv⟩, (r p f hp g).2⟩

theorem find_inv (c : Ctx) (marks : List (List Nat)) (k : Nat) (v0 : V) :
    (es : Items) → (seen : List Nat) → find k es = some v0 → keysOK seen es = true → invI c marks es = true →
      invV c (subMarks k marks) (marks.contains [k]) v0 = true ∧ keysOKV v0 = true :=
  fun _ _ hf ho hi => (inv_at hf ho hi).1

theorem invV_nil (c : Ctx) (v : V) : invV c [] false v = guardedEntry c v := by
  cases v <;> rfl

theorem guarded_inv (c : Ctx) {es : Items} {seen : List Nat} (ho : keysOK seen es = true) :
    invI c [] es = guardedEntries c es := by
  induction es, seen, ho using keysOK_induct with
  | nil => rfl
  | cons seen k v rest _ _ _ _ ih =>
    show (invV c [] false v && invI c [] rest) = (guardedEntry c v && guardedEntries c rest)
    rw [invV_nil, ih]

theorem settled_inv {c : Ctx} {sub : List (List Nat)} {v' : V} (hs : settled v' = true) :
    invV c sub true v' = true ∧ keysOKV v' = true := by
  cases v' with
  | leaf l => exact ⟨hs, rfl⟩
  | nilPtr => exact ⟨rfl, rfl⟩
  | ptr w => cases w with
    | leaf l => exact ⟨hs, rfl⟩
    | _ => cases hs
  | _ => cases hs

theorem getPath_single {k : Nat} {es : Items} {v : V} (h : getPath [k] es = .found v) : find k es = some v := by
  simp only [getPath] at h
  split at h
  · rename_i w hw; cases h; exact hw
  · cases h

theorem getPath_cons {k k2 : Nat} {q : List Nat} {es : Items} {v : V} (h : getPath (k :: k2 :: q) es = .found v) :
    ∃ v0 es0, find k es = some v0 ∧ asMap v0 = some es0 ∧ getPath (k2 :: q) es0 = .found v := by
  simp only [getPath] at h
  split at h
  · cases h
  · rename_i v0 hf
    split at h
    · rename_i es0 hm; exact ⟨v0, es0, hf, hm, h⟩
    · split at h <;> cases h

theorem asMap_cases {v : V} {es : Items} (h : asMap v = some es) : v = .map es ∨ v = .ptr (.map es) := by
  cases v with
  | map es' => cases h; exact .inl rfl
  | ptr w =>
    cases w with
    | map es' => cases h; exact .inr rfl
    | _ => cases h
  | _ => cases h

theorem invV_asMap {c : Ctx} {sub : List (List Nat)} {marked : Bool} {v : V} {es : Items} (hm : asMap v = some es) :
    (invV c sub marked v = true ∧ keysOKV v = true) ↔ (marked = false ∧ invI c sub es = true) ∧ keysOK [] es = true := by
  have h : (invV c sub marked v = true ∧ keysOKV v = true) ↔
      (marked = false ∧ (if sub.isEmpty = true then guardedEntries c es else invI c sub es) = true) ∧
        keysOK [] es = true := by
    -- unmarked, `invV` is this `if` on either shape; marked, both sides are false
    cases marked with
    | false => rcases asMap_cases hm with rfl | rfl <;> exact and_congr_left' (and_iff_right rfl).symm
    | true => rcases asMap_cases hm with rfl | rfl <;> exact iff_of_false (nomatch ·.1) (nomatch ·.1.1)
  -- the `if` in `invV` is a short cut: with no mark below it a map is invariant exactly if it is guarded
  refine h.trans (and_congr_left fun hk => ?_)
  by_cases he : sub.isEmpty = true
  · rw [if_pos he, List.isEmpty_iff.mp he, guarded_inv c hk]
  · rw [if_neg he]

theorem onMap_asMap {f : Items → Items} {v : V} {es : Items} (hm : asMap v = some es) : asMap (onMap f v) = some (f es) := by
  rcases asMap_cases hm with rfl | rfl <;> rfl

/-- **`pointerstructure.Set` of a settled value at a found pointer keeps the invariant**, with the
pointer added to the marks -/
theorem setPath_inv (c : Ctx) (v' : V) (hs : settled v' = true) :
    (p : List Nat) → (es : Items) → (seen : List Nat) → (marks : List (List Nat)) → (v : V) →
      getPath p es = .found v → keysOK seen es = true → invI c marks es = true →
      invI c (marks ++ [p]) (setPath p v' es) = true ∧ keysOK seen (setPath p v' es) = true := by
  intro p
  induction p with
  | nil => intro _ _ _ _ hg; cases hg
  | cons k q ih =>
    intro es seen marks v hg ho hi
    cases q with
    | nil =>
      refine (inv_at (getPath_single hg) ho hi).2 [k] _ rfl ?_
      rw [List.contains_iff_mem.mpr List.mem_concat_self]
      exact settled_inv hs
    | cons k2 q =>
      obtain ⟨v0, es0, hf, hm, hg⟩ := getPath_cons hg
      obtain ⟨hv, put⟩ := inv_at hf ho hi
      obtain ⟨⟨hm0, hi0⟩, hk0⟩ := (invV_asMap hm).mp hv
      obtain ⟨r1, r2⟩ := ih es0 [] (subMarks k marks) v hg hk0 hi0
      refine put (k :: k2 :: q) _ rfl ?_
      obtain ⟨e1, e2⟩ := marks_snoc_below marks k k2 q
      rw [e1, e2]
      exact (invV_asMap (onMap_asMap hm)).mpr ⟨⟨hm0, r1⟩, r2⟩

theorem filterTagged_spec {c : Ctx} {t : TagInfo} {v v' : V} (h : filterTagged c t v = some v') :
    skel v' = skel v ∧ (tagAction t ≠ .keep → settled v' = true) := by
  unfold filterTagged at h
  split at h
  · obtain ⟨l, hl, rfl⟩ := Option.map_eq_some_iff.mp h
    exact ⟨congrArg V.leaf (filterLeaf_spec hl).1, fun ha => cleanLeaf_iff.mpr ((filterLeaf_spec hl).2 ha)⟩
  · obtain ⟨l, hl, rfl⟩ := Option.map_eq_some_iff.mp h
    exact ⟨congrArg (V.ptr ∘ V.leaf) (filterLeaf_spec hl).1,
      fun ha => cleanLeaf_iff.mpr ((filterLeaf_spec hl).2 fun e => ha ((tagAction_keep_iff t).mpr e))⟩
  · cases h; exact ⟨rfl, fun _ => rfl⟩
  · cases h; exact ⟨rfl, fun _ => rfl⟩
  · split at h
    · cases h; exact ⟨rfl, absurd ‹_›⟩
    · cases h

theorem applyTag_some {c : Ctx} {s s' : TS} {t : PTag} (h : applyTag c s t = some s') :
    (getPath t.path s.es = .notFound ∧ s' = s) ∨
    ∃ v v', getPath t.path s.es = .found v ∧ filterTagged c (fromTagString t.tagString c.ov) v = some v' ∧
      s' = { es := setPath t.path v' s.es, marks := s.marks ++ [t.path] } := by
  unfold applyTag at h
  split at h
  · rename_i hg
    cases h; exact .inl ⟨hg, rfl⟩
  · cases h
  · rename_i v hg
    split at h
    · cases h
    · rename_i v' hf
      cases h; exact .inr ⟨v, v', hg, hf, rfl⟩

theorem applyTags_induct {c : Ctx} {s' : TS} {motive : (tags : List PTag) → (s : TS) → applyTags c tags s = some s' → Prop}
    (nil : motive [] s' rfl)
    (cons : ∀ t ts s s1 h, applyTag c s t = some s1 → (h1 : applyTags c ts s1 = some s') → motive ts s1 h1 →
      motive (t :: ts) s h)
    (tags : List PTag) (s : TS) (h : applyTags c tags s = some s') : motive tags s h := by
  induction tags generalizing s with
  | nil => cases h; exact nil
  | cons t ts ih =>
    have h' := h
    simp only [applyTags] at h'
    split at h'
    · cases h'
    · exact cons t ts s _ h ‹_› h' (ih _ h')

theorem applyTags_inv {c : Ctx} {tags : List PTag} {s s' : TS}
    (hp : ∀ t ∈ tags, tagAction (fromTagString t.tagString c.ov) ≠ .keep)
    (h : applyTags c tags s = some s') (ho : keysOK [] s.es = true) (hi : invI c s.marks s.es = true) :
    invI c s'.marks s'.es = true ∧ keysOK [] s'.es = true := by
  induction tags, s, h using applyTags_induct with
  | nil => exact ⟨hi, ho⟩
  | cons t ts s s1 _ h1 _ ih =>
    have hp' := fun x hx => hp x (List.mem_cons_of_mem t hx)
    rcases applyTag_some h1 with ⟨_, rfl⟩ | ⟨v, v', hg, hf, rfl⟩
    · exact ih hp' ho hi
    · obtain ⟨hi1, ho1⟩ :=
        setPath_inv c v' ((filterTagged_spec hf).2 (hp t List.mem_cons_self)) t.path s.es [] s.marks v hg ho hi
      exact ih hp' ho1 hi1

theorem settledP_clean {w : V} (h : settledP w = true) : plains w = [] := by
  cases w with
  | leaf l => exact cleanLeaf_iff.mp h
  | _ => cases h

theorem invV_marked {c : Ctx} {sub : List (List Nat)} {v : V} (hi : invV c sub true v = true) : plains v = [] := by
  cases v with
  | leaf l => exact cleanLeaf_iff.mp hi
  | ptr w => exact settledP_clean (w := w) hi
  | nilPtr => rfl
  | _ => cases hi

/-- a value with no mark below it is kept when its key is marked, and otherwise walked as the value of an untagged
map, which is what the invariant then asks of it (`hg`) -/
theorem marked_spec {c : Ctx} {sub : List (List Nat)} {marked : Bool} {v v' : V}
    (hg : invV c sub false v = guardedEntry c v) (h : (if marked = true then some v else filtEntry c v) = some v') :
    skel v' = skel v ∧ (invV c sub marked v = true → plains v' = []) := by
  cases marked with
  | true => cases h; exact ⟨rfl, invV_marked⟩
  | false => exact hg ▸ filtEntry_spec c v v' h

theorem markedP_spec {c : Ctx} {sub : List (List Nat)} {marked : Bool} {w w' : V}
    (hg : invP c sub w = guardedEntryTarget c w) (h : (if marked = true then some w else filtEntryTarget c w) = some w') :
    skel w' = skel w ∧ ((if marked = true then settledP w else invP c sub w) = true → plains w' = []) := by
  cases marked with
  | true => cases h; exact ⟨rfl, settledP_clean⟩
  | false => exact hg ▸ filtEntryTarget_spec c w w' h

mutual
theorem filtT_spec (c : Ctx) (marks : List (List Nat)) (skip : Bool) : (es es' : Items) → filtT c marks skip es = some es' →
    skelI es' = skelI es ∧ (skip = false ∧ invI c marks es = true → plainsI es' = [])
  | .nil => fun es' h => by
    cases h; exact ⟨rfl, fun _ => rfl⟩
  | .cons (.key k) v rest => fun es' h => by
    obtain ⟨v', r, hv, hr, rfl⟩ := cons_some h
    refine cons_spec (filtTV_spec c _ _ v v' hv) (filtT_spec c marks skip rest r hr) fun ⟨hs, hi⟩ => ?_
    subst hs
    obtain ⟨h1, h2⟩ := (Bool.and_eq_true _ _).mp hi
    exact ⟨h1, rfl, h2⟩
  | .cons (.field _ _) v rest | .cons .elem v rest => fun es' h => by
    obtain ⟨r, hr, rfl⟩ := Option.map_eq_some_iff.mp h
    exact cons_spec (G1 := False) ⟨rfl, False.elim⟩ (filtT_spec c marks skip rest r hr) fun ⟨_, hi⟩ => by cases hi
termination_by structural x => x
theorem filtTV_spec (c : Ctx) (sub : List (List Nat)) (marked : Bool) : (v v' : V) → filtTV c sub marked v = some v' →
    skel v' = skel v ∧ (invV c sub marked v = true → plains v' = [])
  | .map es => fun v' h => by
    by_cases he : sub.isEmpty = true
    · replace h := (if_pos he).symm.trans h
      -- `invV c sub false (.map es)` unfolds to the `if` that `if_pos he` evaluates (so below, for `.ptr`)
      exact marked_spec (if_pos he) h
    · replace h := (if_neg he).symm.trans h
      refine node h fun w hw => (filtT_spec c sub _ es w hw).imp_right fun k hi => k ?_
      cases marked with
      | true => cases hi
      | false => exact ⟨rfl, (if_neg he).symm.trans hi⟩
  | .ptr w => fun v' h => by
    by_cases he : sub.isEmpty = true
    · replace h := (if_pos he).symm.trans h
      exact marked_spec (if_pos he) h
    · replace h := (if_neg he).symm.trans h
      refine node h fun x hx => (filtTP_spec c sub marked w x hx).imp_right fun k hi => k ?_
      cases marked with
      | true => exact hi
      | false => exact (if_neg he).symm.trans hi
  | .leaf _ | .leaves _ | .struct _ | .slice _ | .iface _ => fun _ h => marked_spec rfl h
  | .nilPtr => fun _ h => by cases h; exact ⟨rfl, fun _ => rfl⟩
termination_by structural x => x
theorem filtTP_spec (c : Ctx) (sub : List (List Nat)) (marked : Bool) : (w w' : V) → filtTP c sub marked w = some w' →
    skel w' = skel w ∧ ((if marked = true then settledP w else invP c sub w) = true → plains w' = [])
  | .map es => fun _ h => by
    refine node h fun r hr => (filtT_spec c sub _ es r hr).imp_right fun k hi => k ?_
    cases marked with
    | true => cases hi
    | false => exact ⟨rfl, hi⟩
  | .struct _ | .leaf _ | .leaves _ | .slice _ | .nilPtr | .ptr _ | .iface _ => fun _ h => markedP_spec rfl h
termination_by structural x => x
end

theorem filtT_clean (c : Ctx) (marks : List (List Nat)) : (es es' : Items) → filtT c marks false es = some es' →
    invI c marks es = true → plainsI es' = [] :=
  fun es es' h hi => (filtT_spec c marks false es es' h).2 ⟨rfl, hi⟩

theorem filtTV_clean (c : Ctx) (sub : List (List Nat)) (marked : Bool) : (v v' : V) → filtTV c sub marked v = some v' →
    invV c sub marked v = true → plains v' = [] :=
  fun v v' h => (filtTV_spec c sub marked v v' h).2

theorem filtTP_clean (c : Ctx) (sub : List (List Nat)) : (w w' : V) → filtTP c sub false w = some w' →
    invP c sub w = true → plains w' = [] :=
  fun w w' h => (filtTP_spec c sub false w w' h).2

theorem filtTV_skel (c : Ctx) (sub : List (List Nat)) (marked : Bool) : (v v' : V) → filtTV c sub marked v = some v' →
    skel v' = skel v :=
  fun v v' h => (filtTV_spec c sub marked v v' h).1

theorem filtTP_skel (c : Ctx) (sub : List (List Nat)) (marked : Bool) : (w w' : V) → filtTP c sub marked w = some w' →
    skel w' = skel w :=
  fun w w' h => (filtTP_spec c sub marked w w' h).1

theorem processTagged_filtered {c : Ctx} {ewi : Bool} {tags : List PTag} {es : Items} {v' : V}
    (h : processTagged c ewi tags es = .filtered v') :
    ∃ s es', applyTags c tags { es := es, marks := [] } = some s ∧ filtT c s.marks false s.es = some es' ∧ v' = .map es' := by
  have h := of_ite_eq (of_ite_eq (of_ite_eq h Res.noConfusion) Res.noConfusion) Res.noConfusion
  split at h
  · cases h
  next s hs =>
    split at h
    next es' he => cases h; exact ⟨s, es', hs, he, rfl⟩
    · cases h

theorem find_setIn (k k' : Nat) (f : V → V) (es : Items) :
    find k (setIn k' f es) = if k' = k then (find k es).map f else find k es := by
  induction es using items_induct with
  | nil => simp only [setIn, find, Option.map_none, ite_self]
  | cons h v rest ih =>
    cases h with
    | key j =>
      by_cases hj : j = k'
      · subst hj
        by_cases hk : j = k <;> simp only [setIn, find, hk, if_true, if_false, Option.map_some]
      · simp only [setIn, hj, if_false, find, ih]
        by_cases hk : j = k
        · simp only [hk, if_true, if_neg fun e : k' = k => hj (hk.trans e.symm)]
        · simp only [hk, if_false]
    | _ => simp only [setIn, find, ih]

theorem find_setPath_other (k : Nat) {v' : V} (es : Items) (p : List Nat) (h : p.head? ≠ some k) :
    find k (setPath p v' es) = find k es := by
  cases p with
  | nil => rfl
  | cons k' q => cases q <;> exact (find_setIn k k' _ es).trans (if_neg fun e : k' = k => h (e ▸ rfl))

/-- every tag whose pointer starts with the top-level key `k` names `/k` itself and keeps its value -/
def onlyKept (c : Ctx) (k : Nat) (tags : List PTag) : Prop :=
  ∀ t ∈ tags, t.path.head? = some k → t.path = [k] ∧ tagAction (fromTagString t.tagString c.ov) = .keep

theorem filterTagged_keep (c : Ctx) {t : TagInfo} (h : tagAction t = .keep) (v : V) : filterTagged c t v = some v := by
  unfold filterTagged
  split
  · rw [h]; rfl
  · rw [(tagAction_keep_iff t).mp h]; rfl
  · rfl
  · rfl
  · exact if_pos h

theorem applyTag_key {c : Ctx} {k : Nat} {v0 : V} {s s' : TS} {t : PTag}
    (hk : t.path.head? = some k → t.path = [k] ∧ tagAction (fromTagString t.tagString c.ov) = .keep)
    (h : applyTag c s t = some s') (hf : find k s.es = some v0) :
    find k s'.es = some v0 ∧ (s'.marks.contains [k] = true ↔ (s.marks.contains [k] = true ∨ t.path = [k])) := by
  rcases applyTag_some h with ⟨hn, rfl⟩ | ⟨v, v', hg, hft, rfl⟩
  · -- not found, so the tag does not name `/k`
    have hne : t.path ≠ [k] := fun e => by simp only [e, getPath, hf, reduceCtorEq] at hn
    exact ⟨hf, by simp [hne]⟩
  · by_cases hh : t.path.head? = some k
    · obtain ⟨hp, ha⟩ := hk hh
      rw [hp] at hg ⊢
      cases (getPath_single hg).symm.trans hf
      cases (filterTagged_keep c ha v0).symm.trans hft
      exact ⟨(find_setIn k k _ s.es).trans (by rw [if_pos rfl, hf]; rfl), by simp⟩
    · refine ⟨(find_setPath_other k s.es t.path hh).trans hf, ?_⟩
      rw [(marks_snoc_other s.marks hh).2, or_iff_left fun e : t.path = [k] => hh (e ▸ rfl)]

theorem applyTags_key {c : Ctx} {k : Nat} {v0 : V} {tags : List PTag} {s s' : TS} (hk : onlyKept c k tags)
    (h : applyTags c tags s = some s') (hf : find k s.es = some v0) :
    find k s'.es = some v0 ∧ (s'.marks.contains [k] = true ↔ (s.marks.contains [k] = true ∨ ∃ t ∈ tags, t.path = [k])) := by
  induction tags, s, h using applyTags_induct with
  | nil => exact ⟨hf, by simp⟩
  | cons t ts s s1 _ h1 _ ih =>
    obtain ⟨f1, c1⟩ := applyTag_key (hk t List.mem_cons_self) h1 hf
    obtain ⟨f2, c2⟩ := ih (fun x hx => hk x (List.mem_cons_of_mem t hx)) f1
    exact ⟨f2, by simp only [c2, c1, List.mem_cons, exists_eq_or_imp, or_assoc]⟩

theorem filtT_find {c : Ctx} {marks : List (List Nat)} {skip : Bool} {k : Nat} {es es' : Items}
    (h : filtT c marks skip es = some es') :
    find k es' = (find k es).bind (filtTV c (subMarks k marks) (skip || marks.contains [k])) := by
  induction es using items_induct generalizing es' with
  | nil => cases h; rfl
  | cons hd v rest ih =>
    cases hd with
    | key j =>
      obtain ⟨w, r, hw, hr, rfl⟩ := cons_some h
      by_cases hj : j = k
      · simp only [find, hj, if_true, Option.bind_some, ← hw]
      · simp only [find, hj, if_false, ih hr]
    | _ =>
      obtain ⟨r, hr, rfl⟩ := Option.map_eq_some_iff.mp h
      exact (ih hr :)

/-- behind `C10.tagged_public_preserved` (first half) and `C09.untagged_key_redacted` (second) -/
theorem processTagged_key {c : Ctx} {ewi : Bool} {tags : List PTag} {es es' : Items} {k m : Nat}
    (hf : find k es = some (.leaf (.plain m))) (hk : onlyKept c k tags)
    (h : processTagged c ewi tags es = .filtered (.map es')) :
    ((∃ t ∈ tags, t.path = [k]) → find k es' = some (.leaf (.plain m))) ∧
      ((∀ t ∈ tags, t.path ≠ [k]) → find k es' = some (.leaf .redacted)) := by
  obtain ⟨s, es1, hs, he, hv⟩ := processTagged_filtered h
  cases hv
  obtain ⟨f1, c1⟩ := applyTags_key hk hs hf
  -- the walk keeps the string if `[k]` is marked, and otherwise redacts it (`mapTag`); either is `rfl`
  rw [filtT_find he, f1]
  constructor
  · intro hex
    rw [Bool.false_or, c1.mpr (.inr hex)]
    rfl
  · intro hn
    cases hc : s.marks.contains [k] with
    | true =>
      obtain ⟨t, ht, hp⟩ := (c1.mp hc).resolve_left nofun
      exact absurd hp (hn t ht)
    | false => rfl

theorem skelI_setIn_of (k : Nat) (f : V → V) (es : Items) (hf : ∀ v, find k es = some v → skel (f v) = skel v) :
    skelI (setIn k f es) = skelI es := by
  induction es using items_induct with
  | nil => rfl
  | cons h v rest ih =>
    cases h with
    | key j =>
      by_cases hj : j = k
      · simp only [setIn, hj, if_true, skelI, hf v (by simp only [find, hj, if_true])]
      · simp only [setIn, hj, if_false, skelI, ih fun v h => hf v (by simpa only [find, hj, if_false] using h)]
    | _ => simp only [setIn, skelI, ih hf]

theorem skelI_setIn (k : Nat) (f : V → V) (hf : ∀ v, skel (f v) = skel v) : (es : Items) → skelI (setIn k f es) = skelI es :=
  fun es => skelI_setIn_of k f es fun v _ => hf v

theorem skel_onMap (f : Items → Items) (hf : ∀ es, skelI (f es) = skelI es) (v : V) : skel (onMap f v) = skel v := by
  cases v with
  | map es => exact congrArg V.map (hf es)
  | ptr w => cases w with
    | map es => exact congrArg (V.ptr ∘ V.map) (hf es)
    | _ => rfl
  | _ => rfl

theorem skelI_setPath (v v' : V) (hs : skel v' = skel v) (p : List Nat) (es : Items) (h : getPath p es = .found v) :
    skelI (setPath p v' es) = skelI es := by
  induction p generalizing es with
  | nil => cases h
  | cons k q ih =>
    cases q with
    | nil => exact skelI_setIn_of k _ es fun w hw => by cases (getPath_single h).symm.trans hw; exact hs
    | cons k2 q =>
      obtain ⟨v0, es0, hf, hm, hg⟩ := getPath_cons h
      refine skelI_setIn_of k _ es fun w hw => ?_
      cases hf.symm.trans hw
      have := ih es0 hg
      rcases asMap_cases hm with rfl | rfl
      · exact congrArg V.map this
      · exact congrArg (V.ptr ∘ V.map) this

theorem applyTags_skel {c : Ctx} {tags : List PTag} {s s' : TS} (h : applyTags c tags s = some s') : skelI s'.es = skelI s.es := by
  induction tags, s, h using applyTags_induct with
  | nil => rfl
  | cons t _ s s1 _ h1 _ ih =>
    rcases applyTag_some h1 with ⟨_, rfl⟩ | ⟨v, v', hg, hf, rfl⟩
    · exact ih
    · exact ih.trans (skelI_setPath v v' (filterTagged_spec hf).1 t.path s.es hg)

theorem processTagged_spec {c : Ctx} {ewi : Bool} {tags : List PTag} {es : Items} {v' : V}
    (h : processTagged c ewi tags es = .filtered v') :
    skel v' = skel (.map es) ∧
      (keysOK [] es = true → guardedEntries c es = true →
        (∀ t ∈ tags, tagAction (fromTagString t.tagString c.ov) ≠ .keep) → plains v' = []) := by
  obtain ⟨s, es', hs, he, rfl⟩ := processTagged_filtered h
  refine ⟨congrArg V.map ((filtT_spec c s.marks false s.es es' he).1.trans (applyTags_skel hs)), fun hk hg hp => ?_⟩
  exact filtT_clean c s.marks s.es es' he (applyTags_inv hp hs hk ((guarded_inv c hk).trans hg)).1

end Evl.EncryptTag
