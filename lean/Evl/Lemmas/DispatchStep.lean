import Evl.Model.Dispatch
/-! Inductive presentation of `Dispatch.fire`: eighteen constructors for sixteen labels, `spawn` and `doneCur`
being split into root and non-root.  A case analysis on it is written `induction hs with`: no
premise is recursive, so the cases are those of `cases hs`, without its unification of the two state indices
constructor by constructor. -/
namespace Evl.Dispatch

inductive StepI (c : Cfg) : S → S → Prop
  | cancel {s} : s.ctxDone = false → StepI c s { s with ctxDone := true }
  | rangeStart {s} (p : Nat) : s.rg = .idle → p < c.n → (s.ps p).ph = .idle →
      StepI c s { s with rg := .inRoot p, ps := upd s.ps p { s.ps p with ph := .calling, k := 0 }, inv := s.inv ++ [(p, 0)] }
  | rangeStop {s} (q : Nat) : s.rg = .idle → s.ctxDone = true → q < c.n → (s.ps q).ph = .idle →
      StepI c s { s with rg := .waiting }
  | rangeEnd {s} : s.rg = .idle → (∀ p, p < c.n → (s.ps p).ph ≠ .idle) → StepI c s { s with rg := .waiting }
  | ret {s} (p : Nat) : p < c.n → (s.ps p).ph = .calling →
      StepI c s { s with ps := upd s.ps p { s.ps p with ph := .decided (c.out p (s.ps p).k) } }
  | sendTry {s} (p : Nat) (o : Outcome) : p < c.n → (s.ps p).ph = .decided o → stops c p (s.ps p).k o = true →
      StepI c s { s with ps := upd s.ps p { s.ps p with ph := .sending } }
  | spawnRoot {s} (p : Nat) (o : Outcome) : p < c.n → (s.ps p).ph = .decided o → stops c p (s.ps p).k o = false →
      (s.ps p).k = 0 →
      StepI c s { s with ps := upd s.ps p { s.ps p with ph := .calling, k := 1, rootOwes := true },
                         inv := s.inv ++ [(p, (s.ps p).k + 1)] }
  | spawn {s} (p : Nat) (o : Outcome) : p < c.n → (s.ps p).ph = .decided o → stops c p (s.ps p).k o = false →
      (s.ps p).k ≠ 0 →
      StepI c s { s with ps := upd s.ps p { s.ps p with ph := .calling, k := (s.ps p).k + 1, owing := (s.ps p).owing + 1 },
                         inv := s.inv ++ [(p, (s.ps p).k + 1)] }
  | rendezvous {s} (p : Nat) : p < c.n → (s.ps p).ph = .sending → s.collExited = false →
      StepI c s { s with ps := upd s.ps p { s.ps p with ph := .finishing },
                         got := s.got ++ [(p, (s.ps p).k, c.out p (s.ps p).k == .err)] }
  | sendAbort {s} (p : Nat) : p < c.n → (s.ps p).ph = .sending → s.ctxDone = true →
      StepI c s { s with ps := upd s.ps p { s.ps p with ph := .finishing } }
  | doneCurRoot {s} (p : Nat) : p < c.n → (s.ps p).ph = .finishing → (s.ps p).k = 0 → s.rg = .inRoot p →
      StepI c s { s with rg := .idle, ps := upd s.ps p { s.ps p with ph := .finished } }
  | doneCur {s} (p : Nat) : p < c.n → (s.ps p).ph = .finishing → (s.ps p).k ≠ 0 →
      StepI c s { s with ps := upd s.ps p { s.ps p with ph := .finished } }
  | doneOwing {s} (p : Nat) : p < c.n → (s.ps p).owing > 0 →
      StepI c s { s with ps := upd s.ps p { s.ps p with owing := (s.ps p).owing - 1 } }
  | doneRoot {s} (p : Nat) : p < c.n → (s.ps p).rootOwes = true → s.rg = .inRoot p →
      StepI c s { s with rg := .idle, ps := upd s.ps p { s.ps p with rootOwes := false } }
  | waitEnd {s} : s.rg = .waiting → (∀ p, p < c.n → (s.ps p).busy = false) → StepI c s { s with rg := .waited }
  | close {s} : s.rg = .waited → StepI c s { s with rg := .closed }
  | collectCtx {s} : s.collExited = false → s.ctxDone = true → StepI c s { s with collExited := true }
  | collectClosed {s} : s.collExited = false → s.rg = .closed → StepI c s { s with collExited := true }

theorem allBelow_iff {n : Nat} {f : Nat → Bool} : allBelow n f = true ↔ ∀ p, p < n → f p = true := by
  simp [allBelow]

theorem anyBelow_iff {n : Nat} {f : Nat → Bool} : anyBelow n f = true ↔ ∃ p, p < n ∧ f p = true := by
  simp [anyBelow]

theorem stops_iff {c : Cfg} {p k : Nat} {o : Outcome} :
    stops c p k o = true ↔ o = .err ∨ o = .drop ∨ k + 1 = c.len p := by
  simp [stops, or_assoc]

theorem upd_forall {Q : Nat → PS → Prop} {f : Nat → PS} {p : Nat} {x : PS}
    (hf : ∀ q, q ≠ p → Q q (f q)) (hx : Q p x) : ∀ q, Q q (upd f p x q) := by
  intro q
  by_cases h : q = p
  · subst h; rw [upd_same]; exact hx
  · rw [upd_other _ _ _ _ h]; exact hf q h

/-! `fire c s l` at a constructor `l` reduces to its `if … then some _ else none`, so core's
`Option.ite_some_none_eq_some` inverts it without unfolding; `sendTry`, `spawn` (a `match` on the phase)
and `doneCur` (nested `if`s) get lemmas of their own. -/

theorem match_decided_eq_some {α : Type} {ph : Phase} {f : Outcome → Option α} {a : α} :
    (match ph with | .decided o => f o | _ => none) = some a ↔ ∃ o, ph = .decided o ∧ f o = some a := by
  cases ph <;> simp

theorem ite_ite_eq_some {α : Type} {K R : Prop} {_ : Decidable K} {_ : Decidable R} {x y a : α} :
    (if K then (if R then some x else none) else some y) = some a ↔ (K ∧ R ∧ x = a) ∨ (¬ K ∧ y = a) := by
  by_cases hK : K <;> by_cases hR : R <;> simp [hK, hR]

section
variable {c : Cfg} {s s' : S} {p : Nat}

theorem fire_sendTry : fire c s (.sendTry p) = some s' ↔ ∃ o, (s.ps p).ph = .decided o ∧
    (p < c.n ∧ stops c p (s.ps p).k o = true) ∧ { s with ps := upd s.ps p { s.ps p with ph := .sending } } = s' :=
  match_decided_eq_some.trans (exists_congr fun _ => and_congr_right' Option.ite_some_none_eq_some)

theorem fire_spawn : fire c s (.spawn p) = some s' ↔ ∃ o, (s.ps p).ph = .decided o ∧
    (p < c.n ∧ stops c p (s.ps p).k o = false) ∧
    { s with
        ps := upd s.ps p
          (if (s.ps p).k = 0 then { s.ps p with ph := .calling, k := 1, rootOwes := true }
           else { s.ps p with ph := .calling, k := (s.ps p).k + 1, owing := (s.ps p).owing + 1 }),
        inv := s.inv ++ [(p, (s.ps p).k + 1)] } = s' :=
  match_decided_eq_some.trans (exists_congr fun _ => and_congr_right' Option.ite_some_none_eq_some)

theorem fire_doneCur : fire c s (.doneCur p) = some s' ↔ (p < c.n ∧ (s.ps p).ph = .finishing) ∧
    (((s.ps p).k = 0 ∧ s.rg = .inRoot p ∧ { s with rg := .idle, ps := upd s.ps p { s.ps p with ph := .finished } } = s') ∨
     (¬ (s.ps p).k = 0 ∧ { s with ps := upd s.ps p { s.ps p with ph := .finished } } = s')) :=
  Option.ite_none_right_eq_some.trans (and_congr_right' ite_ite_eq_some)

theorem fire_sound {l : Label} (h : fire c s l = some s') : StepI c s s' := by
  cases l with
  | cancel =>
    obtain ⟨hc, h⟩ := Option.ite_none_left_eq_some.mp h
    cases h; exact .cancel (eq_false_of_ne_true hc)
  | rangeStart p => obtain ⟨hc, rfl⟩ := Option.ite_some_none_eq_some.mp h; exact .rangeStart p hc.1 hc.2.1 hc.2.2
  | rangeStop =>
    obtain ⟨⟨h1, h2, h3⟩, rfl⟩ := Option.ite_some_none_eq_some.mp h
    obtain ⟨q, hq, hidle⟩ := anyBelow_iff.mp h3
    exact .rangeStop q h1 h2 hq (eq_of_beq hidle)
  | rangeEnd =>
    obtain ⟨⟨h1, h2⟩, rfl⟩ := Option.ite_some_none_eq_some.mp h
    exact .rangeEnd h1 fun p hp => bne_iff_ne.mp (allBelow_iff.mp h2 p hp)
  | ret p => obtain ⟨hc, rfl⟩ := Option.ite_some_none_eq_some.mp h; exact .ret p hc.1 hc.2
  | sendTry p => obtain ⟨o, ho, hc, rfl⟩ := fire_sendTry.mp h; exact .sendTry p o hc.1 ho hc.2
  | spawn p =>
    obtain ⟨o, ho, hc, rfl⟩ := fire_spawn.mp h
    by_cases hk : (s.ps p).k = 0
    · rw [if_pos hk]; exact .spawnRoot p o hc.1 ho hc.2 hk
    · rw [if_neg hk]; exact .spawn p o hc.1 ho hc.2 hk
  | rendezvous p => obtain ⟨hc, rfl⟩ := Option.ite_some_none_eq_some.mp h; exact .rendezvous p hc.1 hc.2.1 hc.2.2
  | sendAbort p => obtain ⟨hc, rfl⟩ := Option.ite_some_none_eq_some.mp h; exact .sendAbort p hc.1 hc.2.1 hc.2.2
  | doneCur p =>
    obtain ⟨hc, ⟨hk, hr, rfl⟩ | ⟨hk, rfl⟩⟩ := fire_doneCur.mp h
    · exact .doneCurRoot p hc.1 hc.2 hk hr
    · exact .doneCur p hc.1 hc.2 hk
  | doneOwing p => obtain ⟨hc, rfl⟩ := Option.ite_some_none_eq_some.mp h; exact .doneOwing p hc.1 hc.2
  | doneRoot p => obtain ⟨hc, rfl⟩ := Option.ite_some_none_eq_some.mp h; exact .doneRoot p hc.1 hc.2.1 hc.2.2
  | waitEnd =>
    obtain ⟨⟨h1, h2⟩, rfl⟩ := Option.ite_some_none_eq_some.mp h
    exact .waitEnd h1 fun p hp => (Bool.not_eq_true' _).mp (allBelow_iff.mp h2 p hp)
  | close => obtain ⟨hc, rfl⟩ := Option.ite_some_none_eq_some.mp h; exact .close hc
  | collectCtx => obtain ⟨hc, rfl⟩ := Option.ite_some_none_eq_some.mp h; exact .collectCtx hc.1 hc.2
  | collectClosed => obtain ⟨hc, rfl⟩ := Option.ite_some_none_eq_some.mp h; exact .collectClosed hc.1 hc.2

theorem fire_complete (h : StepI c s s') : ∃ l, fire c s l = some s' := by
  induction h with
  | cancel hc => exact ⟨.cancel, if_neg (ne_true_of_eq_false hc)⟩
  | rangeStart p h1 h2 h3 => exact ⟨.rangeStart p, if_pos ⟨h1, h2, h3⟩⟩
  | rangeStop q h1 h2 h3 h4 =>
    exact ⟨.rangeStop, if_pos ⟨h1, h2, anyBelow_iff.mpr ⟨q, h3, beq_iff_eq.mpr h4⟩⟩⟩
  | rangeEnd h1 h2 => exact ⟨.rangeEnd, if_pos ⟨h1, allBelow_iff.mpr fun p hp => bne_iff_ne.mpr (h2 p hp)⟩⟩
  | ret p h1 h2 => exact ⟨.ret p, if_pos ⟨h1, h2⟩⟩
  | sendTry p o h1 h2 h3 => exact ⟨.sendTry p, fire_sendTry.mpr ⟨o, h2, ⟨h1, h3⟩, rfl⟩⟩
  | spawnRoot p o h1 h2 h3 h4 => exact ⟨.spawn p, fire_spawn.mpr ⟨o, h2, ⟨h1, h3⟩, by rw [if_pos h4]⟩⟩
  | spawn p o h1 h2 h3 h4 => exact ⟨.spawn p, fire_spawn.mpr ⟨o, h2, ⟨h1, h3⟩, by rw [if_neg h4]⟩⟩
  | rendezvous p h1 h2 h3 => exact ⟨.rendezvous p, if_pos ⟨h1, h2, h3⟩⟩
  | sendAbort p h1 h2 h3 => exact ⟨.sendAbort p, if_pos ⟨h1, h2, h3⟩⟩
  | doneCurRoot p h1 h2 h3 h4 => exact ⟨.doneCur p, fire_doneCur.mpr ⟨⟨h1, h2⟩, .inl ⟨h3, h4, rfl⟩⟩⟩
  | doneCur p h1 h2 h3 => exact ⟨.doneCur p, fire_doneCur.mpr ⟨⟨h1, h2⟩, .inr ⟨h3, rfl⟩⟩⟩
  | doneOwing p h1 h2 => exact ⟨.doneOwing p, if_pos ⟨h1, h2⟩⟩
  | doneRoot p h1 h2 h3 => exact ⟨.doneRoot p, if_pos ⟨h1, h2, h3⟩⟩
  | waitEnd h1 h2 =>
    exact ⟨.waitEnd, if_pos ⟨h1, allBelow_iff.mpr fun p hp => (Bool.not_eq_true' _).mpr (h2 p hp)⟩⟩
  | close h1 => exact ⟨.close, if_pos h1⟩
  | collectCtx h1 h2 => exact ⟨.collectCtx, if_pos ⟨h1, h2⟩⟩
  | collectClosed h1 h2 => exact ⟨.collectClosed, if_pos ⟨h1, h2⟩⟩

end

theorem step_iff {c : Cfg} {s s' : S} : Step c s s' ↔ StepI c s s' :=
  ⟨fun ⟨_, h⟩ => fire_sound h, fire_complete⟩

end Evl.Dispatch
