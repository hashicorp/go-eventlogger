import Evl.Lemmas.JsonParse
import Evl.Lemmas.Base64
import Evl.Lemmas.JsonCompact
/-!
# The CloudEvents document as a JSON object

`docToks_toks`: the token stream of the document is that of the object `docJM`, hence `doc_render` and
`text_compacts`.  `verifyDoc_docJM`: the JSON text of a signed `docJM` passes the consumer's check — it parses
(`parse_render`), the two signature members are found in the parser's image (`member_imageM`,
`member_docJM`), `serialized` base64url-decodes to the unsigned document (`b64dec_b64`).
-/
namespace Evl.CloudEvents
open Evl.Json

/-- the two signature members, each left out when empty (`omitempty`) -/
def sigJM : Option (Bytes × Bytes) → JM
  | none => .nil
  | some (ser, mac) =>
    let m : JM := if mac.isEmpty then .nil else .cons (str "serialized_hmac") (.str mac) .nil
    if ser.isEmpty then m else .cons (str "serialized") (.str ser) m

/-- members of the CloudEvents document, in the order `encoding/json` writes them (`datacontentype`: as the
struct tag has it, known finding F8) -/
def docJM (id source ty : Bytes) (data : Option J) (ct schema : Bytes) (tj : J) (sig : Option (Bytes × Bytes)) : JM :=
  let tail : JM := .cons (str "time") tj (sigJM sig)
  let tail : JM := if schema.isEmpty then tail else .cons (str "dataschema") (.str schema) tail
  let tail : JM := .cons (str "datacontentype") (.str ct) tail
  let tail : JM := match data with | some d => .cons (str "data") d tail | none => tail
  .cons (str "id") (.str id) (.cons (str "source") (.str source) (.cons (str "specversion") (.str (str "1.0"))
    (.cons (str "type") (.str ty) tail)))

theorem toksM_ite (b : Bool) (k s : Bytes) (r : JM) :
    toksM (if b then r else .cons k (.str s) r) = (if b then [] else [.key k, .str s]) ++ toksM r := by
  cases b <;> rfl

theorem docToks_toks (id source ty : Bytes) (data : Option J) (ct schema lit : Bytes) (sig : Option (Bytes × Bytes)) :
    docToks id source ty (data.map toks) ct schema lit sig = toks (.obj (docJM id source ty data ct schema (.num lit) sig)) := by
  have hsig : ∀ r, toksM (sigJM sig) ++ r = (match sig with
      | some (ser, mac) =>
        (if ser.isEmpty then [] else [.key (str "serialized"), .str ser]) ++
        (if mac.isEmpty then [] else [.key (str "serialized_hmac"), .str mac])
      | none => []) ++ r := by
    rcases sig with _ | ⟨ser, mac⟩
    · intro r; rfl
    · intro r; simp only [sigJM, toksM_ite, toksM, List.append_nil]
  unfold docToks docJM
  cases data <;>
    simp only [toks, toksM, toksM_ite, Option.map_some, Option.map_none, List.cons_append, List.nil_append, List.append_assoc] <;>
    -- the `match sig` inside `docToks` is that declaration's own matcher: equal to the one in `hsig` by unfolding only
    rw [hsig] <;> rfl

/-- The time stamp is a quoted string, yet the model hands it to the renderer as a `.num` token, the only
kind written verbatim; so `docToks_toks` leaves `.num (renderJ tj)` in the object, which is not `wf` and
which no parser returns.  It renders like `tj` itself, and `tj` is what is read back. -/
theorem renderJ_docJM_verbatimTime (id source ty : Bytes) (data : Option J) (ct schema : Bytes) (tj : J) (sig : Option (Bytes × Bytes)) :
    renderJ (.obj (docJM id source ty data ct schema (.num (renderJ tj)) sig)) =
      renderJ (.obj (docJM id source ty data ct schema tj sig)) := by
  unfold docJM
  cases data <;> cases schema.isEmpty <;> rfl

/-- **The stored compact document is the JSON text of `docJM`** (C18).  `data` is the token stream of a
value (or absent), the time token is the JSON text of a value (a quoted RFC 3339 string). -/
theorem doc_render (id source ty : Bytes) (data : Option J) (ct schema : Bytes) (tj : J) (sig : Option (Bytes × Bytes)) :
    render (docToks id source ty (data.map toks) ct schema (renderJ tj) sig) =
      some (renderJ (.obj (docJM id source ty data ct schema tj sig))) := by
  rw [docToks_toks, render_toks, renderJ_docJM_verbatimTime]

theorem wf_docJM {id source ty : Bytes} {data : Option J} {ct schema : Bytes} {tj : J} {sig : Option (Bytes × Bytes)}
    (hd : ∀ d, data = some d → wf d = true) (ht : wf tj = true) :
    wf (.obj (docJM id source ty data ct schema tj sig)) = true := by
  have hsig : wfM (sigJM sig) = true := by
    rcases sig with _ | ⟨ser, mac⟩
    · rfl
    · simp only [sigJM]; cases ser.isEmpty <;> cases mac.isEmpty <;> rfl
  unfold docJM
  cases data <;> cases schema.isEmpty <;>
    simp only [wf, wfM, ht, hsig, hd, Bool.and_self, if_true, if_false, Bool.false_eq_true]

theorem member_imageM (k : Bytes) (hk : ∀ b ∈ k, b < 0x80) : ∀ ms : JM, member k (imageM ms) = (member k ms).map image
  | .nil => rfl
  | .cons k' v r => by
    have : (sanitize k' == k) = (k' == k) := by
      by_cases e : k' = k
      · rw [e, sanitize_ascii hk]
      · rw [beq_eq_false_iff_ne.mpr e, beq_eq_false_iff_ne]
        exact fun e' => e ((sanitize_ascii_inv k' (by rw [e']; exact hk)).symm.trans e')
    simp only [imageM, member, this]
    cases k' == k
    · exact member_imageM k hk r
    · rfl

/-! `str` of a literal is evaluated by the kernel only -/
theorem str_serialized : str "serialized" = kSerialized := by decide +kernel
theorem str_serialized_hmac : str "serialized_hmac" = kSerializedHmac := by decide +kernel

theorem attr_ne_sig : ∀ k ∈ [kSerialized, kSerializedHmac], ∀ n ∈ [str "id", str "source", str "specversion", str "type",
    str "data", str "datacontentype", str "dataschema", str "time"], (n == k) = false := by decide +kernel

theorem member_docJM_sig {k : Bytes} (hk : k ∈ [kSerialized, kSerializedHmac]) {id source ty : Bytes} {data : Option J}
    {ct schema : Bytes} {tj : J} {sig : Option (Bytes × Bytes)} :
    member k (docJM id source ty data ct schema tj sig) = member k (sigJM sig) := by
  have h := attr_ne_sig k hk
  simp only [List.forall_mem_cons] at h
  obtain ⟨h1, h2, h3, h4, h5, h6, h7, h8, -⟩ := h
  cases data <;> simp only [docJM, apply_ite (member k), member, h1, h2, h3, h4, h5, h6, h7, h8, Bool.false_eq_true, ↓reduceIte,
    ite_self]

theorem member_docJM (id source ty : Bytes) (data : Option J) (ct schema : Bytes) (tj : J) (ser mac : Bytes)
    (h1 : ser ≠ []) (h2 : mac ≠ []) :
    member kSerialized (docJM id source ty data ct schema tj (some (ser, mac))) = some (.str ser) ∧
    member kSerializedHmac (docJM id source ty data ct schema tj (some (ser, mac))) = some (.str mac) := by
  rw [member_docJM_sig List.mem_cons_self, member_docJM_sig (List.mem_cons_of_mem _ List.mem_cons_self)]
  simp only [sigJM, List.isEmpty_eq_false_iff.mpr h1, List.isEmpty_eq_false_iff.mpr h2, str_serialized, str_serialized_hmac, member,
    beq_self_eq_true, Bool.false_eq_true, ↓reduceIte, show (kSerialized == kSerializedHmac) = false by decide, and_self]

theorem verifyDoc_docJM {signer : Bytes → Option Bytes} {id source ty : Bytes} {dv : Option J} {ct schema : Bytes} {tj : J}
    {u mac : Bytes} (hdw : ∀ d, dv = some d → wf d = true) (htw : wf tj = true)
    (hune : u ≠ []) (hb : ∀ b ∈ u, b < 256) (hsig : signer u = some mac) (hm1 : mac ≠ []) (hm2 : sanitize mac = mac) :
    verifyDoc signer (renderJ (.obj (docJM id source ty dv ct schema tj (some (b64 u, mac))))) = .verified := by
  obtain ⟨k1, k2⟩ := member_docJM id source ty dv ct schema tj (b64 u) mac (b64_nonempty u hune) hm1
  unfold verifyDoc
  rw [parse_render _ (wf_docJM hdw htw)]
  simp only [image, member_imageM kSerialized (by decide), member_imageM kSerializedHmac (by decide), k1, k2, Option.map_some,
    sanitize_ascii (b64_ascii u), hm2, b64dec_b64 u hb, hsig, beq_self_eq_true, if_true]

theorem allStable_docToks (id source ty : Bytes) (data : Option J) (ct schema : Bytes) (tj : J) (sig : Option (Bytes × Bytes))
    (hd : ∀ d, data = some d → wf d = true) (ht : wf tj = true) :
    allStable (docToks id source ty (data.map toks) ct schema (renderJ tj) sig) := by
  unfold docToks
  simp only [allStable_append, allStable, tokStable, and_true, true_and]
  refine ⟨⟨⟨?_, ?_⟩, stable_renderJ tj ht⟩, ?_⟩
  · cases data with
    | none => trivial
    | some d => exact ⟨trivial, allStable_toks d (hd d rfl)⟩
  · split <;> simp only [allStable, tokStable, and_self]
  · split
    · simp only [allStable_append]; constructor <;> split <;> simp only [allStable, tokStable, and_self]
    · trivial

/-- **The text format is the compact document, indented** (C18): compacting what the formatter stores under
cloudevents-text (the indented rendering and its newline) gives the JSON text of `docJM` — the very bytes
`doc_render` describes for cloudevents-json, with the text content type. -/
theorem text_compacts (id source ty : Bytes) (data : Option J) (ct schema : Bytes) (tj : J) (sig : Option (Bytes × Bytes))
    (hd : ∀ d, data = some d → wf d = true) (ht : wf tj = true) (x : Bytes)
    (hx : renderIndent (docToks id source ty (data.map toks) ct schema (renderJ tj) sig) [] false = some x) :
    compact (x ++ [10]) = renderJ (.obj (docJM id source ty data ct schema tj sig)) :=
  compact_of_indent (allStable_docToks id source ty data ct schema tj sig hd ht) hx
    (doc_render id source ty data ct schema tj sig)

end Evl.CloudEvents
