import Evl.Lemmas.JsonBytes
import Evl.Model.CloudEvents
/-!
# `json.Compact` undoes the indenting encoder

`Compacts x y`: the scanner, entering and leaving `x` outside any string, writes `y` for it; `Stable p` is
`Compacts p p`: plain bytes, quoted strings (`stable_quote`, by `esc_induct`), hence the compact text of every
value.  The indenting encoder takes the compact encoder's steps, adding white space only (`renderIndent_cons`
next to `renderToks_cons`), so compacting the indented rendering gives the compact rendering: `compact_indent`.
-/
namespace Evl.Json

def Compacts (x y : Bytes) : Prop := ∀ rest, compactS false false (x ++ rest) = y ++ compactS false false rest

theorem compacts_append {a b c d : Bytes} (h1 : Compacts a b) (h2 : Compacts c d) : Compacts (a ++ c) (b ++ d) := by
  intro rest; rw [List.append_assoc, h1, h2, List.append_assoc]

def Stable (p : Bytes) : Prop := ∀ rest, compactS false false (p ++ rest) = p ++ compactS false false rest

theorem stable_nil : Stable [] := fun _ => rfl
theorem stable_append {a b : Bytes} (ha : Stable a) (hb : Stable b) : Stable (a ++ b) := compacts_append ha hb

theorem stable_plain (p : Bytes) (h : ∀ c ∈ p, isWs c = false ∧ c ≠ 34) : Stable p := by
  induction p with
  | nil => exact stable_nil
  | cons c t ih =>
    intro rest
    obtain ⟨hc, ht⟩ := List.forall_mem_cons.mp h
    simp only [List.cons_append, compactS, hc.1, Bool.false_eq_true, if_false, beq_eq_false_iff_ne.mpr hc.2]
    rw [ih ht rest]

theorem numChar_plain (c : Nat) (h : isNumChar c = true) : isWs c = false ∧ c ≠ 34 := by
  have ne (x : Nat) (hx : isNumChar x = false) : (c == x) = false := beq_eq_false_iff_ne.mpr (numChar_ne h hx)
  exact ⟨by rw [isWs, ne 32 rfl, ne 10 rfl, ne 13 rfl, ne 9 rfl]; rfl, numChar_ne h rfl⟩

theorem stable_num (lit : Bytes) (h : lit.all isNumChar = true) : Stable lit :=
  stable_plain lit (fun c hc => numChar_plain c (List.all_eq_true.mp h c hc))

theorem stable_comma (c : Bool) : Stable (if c = true then [44] else []) := by
  cases c
  · exact stable_nil
  · exact stable_plain [44] (by decide)

theorem compacts_ws {p : Bytes} (h : ∀ c ∈ p, isWs c = true) : Compacts p [] := by
  induction p with
  | nil => exact fun _ => rfl
  | cons c t ih =>
    intro rest
    obtain ⟨hc, ht⟩ := List.forall_mem_cons.mp h
    simp only [List.cons_append, compactS, hc, if_true]
    exact ih ht rest

/-- inside a string, the scanner copies `p` and is still inside the string, not after a backslash -/
def InStr (p : Bytes) : Prop := ∀ rest, compactS true false (p ++ rest) = p ++ compactS true false rest

theorem inStr_append {a b : Bytes} (ha : InStr a) (hb : InStr b) : InStr (a ++ b) := by
  intro rest; rw [List.append_assoc, ha, hb, List.append_assoc]

theorem inStr_plain (p : Bytes) (h : ∀ c ∈ p, c ≠ 34 ∧ c ≠ 92) : InStr p := by
  induction p with
  | nil => exact fun _ => rfl
  | cons c t ih =>
    intro rest
    obtain ⟨hc, ht⟩ := List.forall_mem_cons.mp h
    simp only [List.cons_append, compactS, beq_eq_false_iff_ne.mpr hc.1, beq_eq_false_iff_ne.mpr hc.2, Bool.false_eq_true, if_false]
    rw [ih ht rest]

theorem inStr_esc (x : Nat) : InStr [92, x] := fun _ => by simp [compactS]

theorem item_inStr {p d : Bytes} (h : Item p d) : InStr p := by
  cases h with
  | short _ _ _ _ => exact inStr_esc _
  | uni ha hb hc hd =>
    exact inStr_append (inStr_esc 117) (inStr_plain _ (by
      simp only [List.forall_mem_cons]
      exact ⟨(hexDigit_spec _ ha).2.2.2, (hexDigit_spec _ hb).2.2.2, (hexDigit_spec _ hc).2.2.2, (hexDigit_spec _ hd).2.2.2, nofun⟩))
  | raw hq => exact inStr_plain _ (fun x hx => (hq x hx).2)

theorem inStr_escBytes (s : Bytes) : InStr (escBytes s) :=
  esc_induct (P := fun _ e _ => InStr e) (fun _ => rfl) (fun hi _ ih => inStr_append (item_inStr hi) ih) s

theorem stable_quote (s : Bytes) : Stable (quote s) := by
  intro rest
  unfold quote
  simp only [List.cons_append, List.nil_append, List.append_assoc]
  show 34 :: compactS true false (escBytes s ++ 34 :: rest) = _
  rw [inStr_escBytes s (34 :: rest)]
  rfl

end Evl.Json

namespace Evl.CloudEvents
open Evl.Json

/-- the white space `Encoder.SetIndent("", "  ")` puts between the comma and a token: a newline and two
spaces per open container, except directly after a member name and before the bracket closing an empty
container -/
def indent (t : Tok) (st : Stack) (ak : Bool) : Bytes :=
  match t with
  | .endObj | .endArr => match st with | true :: r => nl r.length | _ => []
  | .key _ => match st with | _ :: r => nl (r.length + 1) | [] => []
  | _ => if ak then [] else match st with | _ :: r => nl (r.length + 1) | [] => []

def tokTextI : Tok → Bytes
  | .key s => quote s ++ [58, 32]
  | t => tokText t

theorem nl_ws (d : Nat) : ∀ c ∈ nl d, isWs c = true := by
  intro c hc
  simp only [nl, indentOf, List.mem_cons, List.mem_replicate] at hc
  rcases hc with rfl | ⟨_, rfl⟩ <;> decide

theorem renderIndent_cons (t : Tok) (ts : List Tok) (st : Stack) (ak : Bool) (h : t ≠ .unsupported) :
    renderIndent (t :: ts) st ak =
      (renderIndent ts (encStep t st ak).st (encStep t st ak).afterKey).map
        ((encStep t st ak).comma ++ indent t st ak ++ tokTextI t ++ ·) := by
  cases t with
  | unsupported => exact absurd rfl h
  | endObj | endArr => rcases st with _ | ⟨_ | _, r⟩ <;> rfl
  | key s => rcases st with _ | ⟨_ | _, r⟩ <;> exact map_congr_app _ _ _ (List.append_assoc _ _ _)
  | bool b =>
    cases ak
    · cases b <;> rcases st with _ | ⟨_ | _, r⟩ <;> rfl
    · cases b <;> rfl
  | _ =>
    cases ak
    · rcases st with _ | ⟨_ | _, r⟩ <;> rfl
    · rfl

theorem indent_ws (t : Tok) (st : Stack) (ak : Bool) : ∀ c ∈ indent t st ak, isWs c = true := by
  fun_cases indent t st ak
  all_goals first | exact nl_ws _ | exact nofun

def Rel (oi ot : Option Bytes) : Prop :=
  match oi, ot with
  | some x, some y => ∀ rest, compactS false false (x ++ rest) = y ++ compactS false false rest
  | none, none => True
  | _, _ => False

def tokStable : Tok → Prop
  | .num t => Stable t
  | _ => True

def allStable : List Tok → Prop
  | [] => True
  | t :: ts => tokStable t ∧ allStable ts

theorem rel_map {oi ot : Option Bytes} (h : Rel oi ot) {P S : Bytes} (hP : Compacts P S) :
    Rel (oi.map (P ++ ·)) (ot.map (S ++ ·)) := by
  cases oi <;> cases ot <;> simp only [Rel, Option.map_some, Option.map_none] at h ⊢
  intro rest
  rw [List.append_assoc, hP, h rest, List.append_assoc]

theorem tokTextI_compacts (t : Tok) (h : tokStable t) : Compacts (tokTextI t) (tokText t) := by
  cases t with
  | num tok => exact h
  | str s => exact stable_quote s
  | key s => exact compacts_append (stable_quote s) (fun _ => rfl)
  | bool b => cases b <;> exact stable_plain _ (by decide)
  | _ => exact stable_plain _ (by decide)

/-- **`json.Compact` of the indented rendering is the compact rendering** (C18), for every token stream
(well-formed or not), every encoder state, provided the verbatim tokens are themselves unaffected by
compaction (number literals, quoted time stamps). -/
theorem compact_indent : ∀ (ts : List Tok) (st : Stack) (ak : Bool), allStable ts →
    Rel (renderIndent ts st ak) (renderToks ts st ak) := by
  intro ts
  induction ts with
  | nil => intro st ak _ rest; rfl
  | cons t ts ih =>
    intro st ak hst
    by_cases hu : t = .unsupported
    · subst hu; trivial
    rw [renderIndent_cons t ts st ak hu, renderToks_cons t ts st ak hu]
    have hc : Stable (encStep t st ak).comma := encStep_comma stable_nil (stable_plain _ (by decide)) t st ak
    -- comma copied, indentation dropped, the token's text compacted
    have := compacts_append (compacts_append hc (compacts_ws (indent_ws t st ak))) (tokTextI_compacts t hst.1)
    rw [List.append_nil] at this
    exact rel_map (ih _ _ hst.2) this

/-- About a variable `ts`: with the document's tokens in its place, elaborating `compact_indent ts [] false`
already evaluates `renderIndent` on them. -/
theorem compact_of_indent {ts : List Tok} {x y : Bytes} (hs : allStable ts) (hx : renderIndent ts [] false = some x)
    (hy : render ts = some y) : compact (x ++ [10]) = y := by
  have hr := compact_indent ts [] false hs
  unfold render at hy
  rw [hx, hy] at hr
  unfold compact
  rw [hr [10]]
  exact List.append_nil y  -- the newline is white space: `compactS false false [10]` is `[]`

theorem allStable_append (a b : List Tok) : allStable (a ++ b) ↔ allStable a ∧ allStable b := by
  induction a with
  | nil => simp [allStable]
  | cons t ts ih => simp [allStable, ih, and_assoc]

mutual
/-- Needed for one token only: the document's time stamp, the text of a value handed to the renderer verbatim
(`allStable_docToks`); the tokens of the data are covered by `allStable_toks`. -/
theorem stable_renderJ : ∀ (v : J), wf v = true → Stable (renderJ v)
  | .null | .bool true | .bool false => fun _ => stable_plain _ (by decide)
  | .str s => fun _ => stable_quote s
  | .num lit => fun h => stable_num lit (wf_num.mp h).2.1
  | .arr es => fun h =>
    stable_append (stable_append (stable_plain [91] (by decide)) (stable_renderL false es h)) (stable_plain [93] (by decide))
  | .obj ms => fun h =>
    stable_append (stable_append (stable_plain [123] (by decide)) (stable_renderM false ms h)) (stable_plain [125] (by decide))
theorem stable_renderL : ∀ (c : Bool) (es : JL), wfL es = true → Stable (renderL c es)
  | _, .nil, _ => stable_nil
  | c, .cons v r, h => by
    simp only [wfL, Bool.and_eq_true] at h
    exact stable_append (stable_append (stable_comma c) (stable_renderJ v h.1)) (stable_renderL true r h.2)
theorem stable_renderM : ∀ (c : Bool) (ms : JM), wfM ms = true → Stable (renderM c ms)
  | _, .nil, _ => stable_nil
  | c, .cons k v r, h => by
    simp only [wfM, Bool.and_eq_true] at h
    exact stable_append (stable_append (stable_append (stable_append (stable_comma c) (stable_quote k)) (stable_plain [58] (by decide)))
      (stable_renderJ v h.1)) (stable_renderM true r h.2)
end

mutual
theorem allStable_toks : ∀ (v : J), wf v = true → allStable (toks v)
  | .null | .bool _ | .str _ => fun _ => ⟨trivial, trivial⟩
  | .num lit => fun h => ⟨stable_num lit (wf_num.mp h).2.1, trivial⟩
  | .arr es => fun h => by
    simp only [toks, allStable_append, allStable, tokStable, true_and, and_true]
    exact allStable_toksL es h
  | .obj ms => fun h => by
    simp only [toks, allStable_append, allStable, tokStable, true_and, and_true]
    exact allStable_toksM ms h
theorem allStable_toksL : ∀ (es : JL), wfL es = true → allStable (toksL es)
  | .nil => fun _ => trivial
  | .cons v r => fun h => by
    simp only [wfL, Bool.and_eq_true] at h
    simp only [toksL, allStable_append]
    exact ⟨allStable_toks v h.1, allStable_toksL r h.2⟩
theorem allStable_toksM : ∀ (ms : JM), wfM ms = true → allStable (toksM ms)
  | .nil => fun _ => trivial
  | .cons k v r => fun h => by
    simp only [wfM, Bool.and_eq_true] at h
    simp only [toksM, allStable_append, allStable, tokStable, true_and]
    exact ⟨allStable_toks v h.1, allStable_toksM r h.2⟩
end

theorem indent_ok (t : Tok) (st : Stack) (ak : Bool) : bytesOK (indent t st ak) :=
  fun c hc => by
    have := indent_ws t st ak c hc
    simp only [isWs, Bool.or_eq_true, beq_iff_eq] at this
    omega

theorem tokTextI_ok (t : Tok) (h : tokOK t) : bytesOK (tokTextI t) := by
  fun_cases tokTextI t
  case case1 s => exact bytesOK_append.mpr ⟨quote_ok s h, by decide⟩
  case case2 => exact tokText_ok _ h

theorem renderIndent_ok {ts : List Tok} {st : Stack} {ak : Bool} {out : Bytes} (hts : ∀ t ∈ ts, tokOK t)
    (h : renderIndent ts st ak = some out) : bytesOK out := by
  induction ts generalizing st ak out with
  | nil => cases h; exact bytesOK_nil
  | cons t ts ih =>
    have hne : t ≠ .unsupported := by rintro rfl; cases h
    rw [renderIndent_cons t ts st ak hne] at h
    obtain ⟨r, hr, rfl⟩ := Option.map_eq_some_iff.mp h
    have hc : bytesOK (encStep t st ak).comma := encStep_comma bytesOK_nil (by decide) t st ak
    obtain ⟨ht, hts⟩ := List.forall_mem_cons.mp hts
    exact bytesOK_append.mpr ⟨bytesOK_append.mpr ⟨bytesOK_append.mpr ⟨hc, indent_ok t st ak⟩, tokTextI_ok t ht⟩, ih hts hr⟩

theorem encode_some {text : Bool} {ts : List Tok} {u : Bytes} (h : encode text ts = some u) :
    ∃ x, (if text then renderIndent ts [] false else render ts) = some x ∧ u = x ++ [10] := by
  obtain ⟨x, hx, rfl⟩ := Option.map_eq_some_iff.mp h
  exact ⟨x, hx, rfl⟩

theorem encode_ok {text : Bool} {ts : List Tok} {u : Bytes} (hok : ∀ t ∈ ts, tokOK t) (h : encode text ts = some u) :
    bytesOK u := by
  obtain ⟨x, hx, rfl⟩ := encode_some h
  refine bytesOK_append.mpr ⟨?_, by decide⟩
  cases text
  · exact renderToks_ok hok hx
  · exact renderIndent_ok hok hx

end Evl.CloudEvents
