import Evl.Lemmas.RegistryInv
/-! Close-once: over any history no registration instance is closed twice.  `CInv b cl`: the instances closed
so far followed by those registered are one list the counter has handed out (`Handed`: distinct, below it).  An
operation moves instances from the registered to the closed (`Handed.move`) or appends the counter's value
(`Handed.snoc`, RegisterNode). -/
namespace Evl.Registry

/-- the instances whose `Close` the calls of a history report, in order -/
def runClosed (b : Broker) : List Op → List Nat
  | [] => []
  | op :: rest => closedOf (step b op).2 ++ runClosed (step b op).1 rest

def insts (ns : List (Nat × NodeEntry)) : List Nat := ns.map (·.2.inst)

structure Handed (n : Nat) (l : List Nat) : Prop where
  nd : l.Nodup
  lt : ∀ i ∈ l, i < n

/-- `cl` stays; of the rest `r`, taken in the order `l`, a sublist stays, written `cl' ++ l'` (newly closed, still
registered) -/
theorem Handed.move {n : Nat} {cl cl' l l' r : List Nat} (h : Handed n (cl ++ r)) (hsub : (cl' ++ l').Sublist l)
    (hp : l.Perm r) : Handed n (cl ++ cl' ++ l') := by
  have hp := hp.append_left cl
  have hsub := hsub.append_left cl
  rw [← List.append_assoc] at hsub
  exact ⟨(hp.nodup_iff.mpr h.nd).sublist hsub, fun i hi => h.lt i (hp.mem_iff.mp (hsub.subset hi))⟩

theorem Handed.snoc {n : Nat} {l : List Nat} (h : Handed n l) : Handed (n + 1) (l ++ [n]) :=
  have hp := List.perm_append_singleton n l
  ⟨hp.nodup_iff.mpr (List.nodup_cons.mpr ⟨fun hn => Nat.lt_irrefl n (h.lt n hn), h.nd⟩), fun i hi =>
    (List.mem_cons.mp (hp.mem_iff.mp hi)).elim (· ▸ Nat.lt_succ_self n) fun hi => Nat.lt_succ_of_lt (h.lt i hi)⟩

def CInv (b : Broker) (cl : List Nat) : Prop := Handed b.nextInst (cl ++ insts b.nodes)

theorem cinv_init : CInv init [] :=
  ⟨List.nodup_nil, fun _ h => nomatch h⟩

theorem insts_release (ns : List (Nat × NodeEntry)) (ids : List Nat) : insts (release ns ids) = insts ns := by
  apply Keyed.map_map_ite
  exact fun _ => rfl

theorem insts_releaseOld (ns : List (Nat × NodeEntry)) (o : Option Pipe) : insts (releaseOld ns o) = insts ns := by
  cases o with
  | none => rfl
  | some o => exact insts_release ns o.ids

theorem insts_acquire (ns : List (Nat × NodeEntry)) (ids : List Nat) : insts (acquire ns ids) = insts ns := by
  apply Keyed.map_map_ite
  exact fun _ => rfl

theorem insts_putNode (ns : List (Nat × NodeEntry)) (id : Nat) (e : NodeEntry) :
    insts (putNode ns id e) = insts (eraseNode ns id) ++ [e.inst] :=
  List.map_append

theorem insts_filter_perm (p : Nat × NodeEntry → Bool) (ns : List (Nat × NodeEntry)) :
    (insts (ns.filter p) ++ insts (ns.filter (fun x => !p x))).Perm (insts ns) := by
  unfold insts
  rw [← List.map_append]
  exact (List.filter_append_perm p ns).map _

theorem cinv_step {b : Broker} {cl : List Nat} (h : CInv b cl) (op : Op) :
    CInv (step b op).1 (cl ++ closedOf (step b op).2) := by
  have hs := step_spec b op
  generalize step b op = s at hs ⊢
  induction hs with
  | refused | refusedLate => exact h.move (.refl _) (.refl _)
  | passive op gs r _ _ hr => rw [hr]; exact h.move (.refl _) (.refl _)
  | regPipe => exact h.move (by rw [insts_acquire, insts_releaseOld]; exact .refl _) (.refl _)
  | removePipe => exact h.move (by rw [insts_releaseOld]; exact .refl _) (.refl _)
  | regNode id ty beh cf pol =>
    rw [CInv, insts_putNode, ← List.append_assoc]
    exact (h.move (cl' := []) (List.filter_sublist.map _) (.refl _)).snoc
  | removeNode id e hl =>
    -- reordered: the entries under `id`, all of which go and `e` is one, in front
    have he : [e.inst].Sublist (insts (b.nodes.filter (fun x => x.1 == id))) :=
      List.singleton_sublist.mpr (List.mem_map.mpr ⟨(id, e), List.mem_filter.mpr ⟨Keyed.assoc_eq_some hl, beq_self_eq_true' id⟩, rfl⟩)
    exact h.move (he.append (.refl _)) (insts_filter_perm (fun x => x.1 == id) b.nodes)
  | rpan ty pid o =>
    refine h.move ?_ (insts_filter_perm (fun x => o.ids.contains x.1 && decide (x.2.refs ≤ 1)) b.nodes)
    rw [detachAll_kept_eq, insts_release]
    exact .refl _

theorem cinv_run (ops : List Op) {b : Broker} {cl : List Nat} (h : CInv b cl) :
    CInv (run b ops) (cl ++ runClosed b ops) := by
  induction ops generalizing b cl with
  | nil => simpa [run, runClosed] using h
  | cons op rest ih =>
    have := ih (cinv_step h op)
    simp only [run, List.foldl_cons, runClosed]
    rw [← List.append_assoc]
    exact this

end Evl.Registry
