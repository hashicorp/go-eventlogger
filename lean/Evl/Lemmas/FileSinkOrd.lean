import Evl.Lemmas.FileSinkOps
/-!
Ordering invariant of M5 `FileSink`: the open descriptor (and the plain-named file) is always the
*newest* inode, inode ids and file-name timestamps grow with creation order, and the directory lists
exactly the linked inodes in creation order.
-/
namespace Evl.FileSink

theorem tsFiles_eq (d : List (Name × Nat)) : tsFiles d = sortTs (d.filterMap tsOf) := rfl

structure Ord (c : Cfg) (s : St) : Prop where
  -- a write goes to the newest inode, i.e. to the end of `contents` (`append_at_end`)
  fdLast : ∀ i, s.fd = some i → (s.inodes.map (·.id)).getLast? = some i
  -- what `open()` re-opens under the plain name is the newest inode (`ord_open`), and `renamePlain` may
  -- give it the newest timestamp without breaking `tsSorted` (`ord_renamePlain`)
  plainLast : ∀ i, (Name.plain, i) ∈ s.dir → (s.inodes.map (·.id)).getLast? = some i
  -- creation order is id order; with `idFresh`, the inode `open()` creates (id `stamp`) is the newest
  sorted : (s.inodes.map (·.id)).Pairwise (· < ·)
  idFresh : ∀ x ∈ s.inodes, x.id < s.stamp
  -- a name stamped `stamp` is not in the directory yet and sorts after every name there
  tsFresh : ∀ n i, (Name.ts n, i) ∈ s.dir → n < s.stamp
  -- timestamped mode has no plain file: `ord_prune` needs a directory without one (under
  -- TimestampOnlyOnRotate `renamePlain` has just renamed it away)
  noPlain : usesPlain c = false → ∀ i, (Name.plain, i) ∉ s.dir
  -- one entry per linked inode, in the same order: unlinking by inode is unlinking by name (`prune_of_ord`)
  dirInodes : s.dir.map (·.2) = s.inodes.map (·.id)
  -- the directory lists the sink's own files oldest first already: `prune`'s sort changes nothing
  tsSorted : (s.dir.filterMap tsOf).Pairwise (fun a b => a.1 < b.1)

theorem ord_init (c : Cfg) : Ord c {} := by
  constructor <;> simp

theorem Ord.id_lt {c : Cfg} {s : St} (h : Ord c s) {j : Nat} (hj : j ∈ s.inodes.map (·.id)) : j < s.stamp := by
  obtain ⟨x, hx, rfl⟩ := List.mem_map.mp hj
  exact h.idFresh x hx

theorem Ord.of_ids {c : Cfg} {s s' : St} (h : Ord c s) (hids : s'.inodes.map (·.id) = s.inodes.map (·.id))
    (hdir : s'.dir = s.dir) (hst : s.stamp ≤ s'.stamp)
    (hfd : ∀ i, s'.fd = some i → (s.inodes.map (·.id)).getLast? = some i) : Ord c s' where
  fdLast i hi := hids ▸ hfd i hi
  plainLast := hids ▸ hdir ▸ h.plainLast
  sorted := hids ▸ h.sorted
  idFresh _ hx := Nat.lt_of_lt_of_le (h.id_lt (hids ▸ List.mem_map_of_mem hx)) hst
  tsFresh n i hi := Nat.lt_of_lt_of_le (h.tsFresh n i (hdir ▸ hi)) hst
  noPlain := hdir ▸ h.noPlain
  dirInodes := hids ▸ hdir ▸ h.dirInodes
  tsSorted := hdir ▸ h.tsSorted

theorem ord_close {c : Cfg} {s : St} (h : Ord c s) : Ord c (closeFd s) :=
  { h with fdLast := fun _ hi => nomatch hi }

theorem ord_open {c : Cfg} {s : St} (h : Ord c s) : Ord c (openFile c s) := by
  rcases openFile_cases c s with ⟨_, _, e⟩ | ⟨i, hi, e⟩ | ⟨hnew, e⟩ <;> rw [e]
  · exact h
  · refine h.of_ids (chmod_map _ (fun _ _ => rfl) ..) rfl (Nat.le_succ _) fun j hj => Option.some.inj hj ▸ ?_
    -- the name `open()` looks for is the plain one; a timestamped one would be fresh
    rcases openName_cases c s with ⟨_, hn⟩ | ⟨_, hn⟩ <;> rw [hn] at hi
    · exact h.plainLast i hi
    · exact absurd (h.tsFresh _ _ hi) (Nat.lt_irrefl _)
  · obtain ⟨hnp, hts, hpl⟩ : (∀ j, (Name.plain, j) ∉ s.dir) ∧ (∀ n, openName c s = Name.ts n → n = s.stamp) ∧
        (usesPlain c = false → openName c s ≠ Name.plain) := by
      rcases openName_cases c s with ⟨hu, hn⟩ | ⟨hu, hn⟩ <;> rw [hn] at hnew ⊢
      · exact ⟨hnew, nofun, fun hu' => nomatch hu.symm.trans hu'⟩
      · exact ⟨h.noPlain hu, fun _ e => (Name.ts.inj e).symm, fun _ => nofun⟩
    constructor
    case fdLast =>
      intro j hj
      simp only [Option.some.inj hj, List.map_append, List.map_cons, List.map_nil, List.getLast?_concat]
    case plainLast =>
      intro j hj
      rcases List.mem_append.mp hj with hj | hj
      · exact absurd hj (hnp j)
      · simp only [(Prod.mk.inj (List.mem_singleton.mp hj)).2, List.map_append, List.map_cons, List.map_nil,
          List.getLast?_concat]
    case sorted =>
      simp only [List.map_append, List.map_cons, List.map_nil]
      exact List.pairwise_append.mpr
        ⟨h.sorted, List.pairwise_singleton .., fun a ha b hb => List.mem_singleton.mp hb ▸ h.id_lt ha⟩
    case idFresh =>
      intro x hx
      rcases List.mem_append.mp hx with hx | hx
      · exact Nat.lt_succ_of_lt (h.idFresh x hx)
      · rw [List.mem_singleton.mp hx]; exact Nat.lt_succ_self s.stamp
    case tsFresh =>
      intro n j hj
      rcases List.mem_append.mp hj with hj | hj
      · exact Nat.lt_succ_of_lt (h.tsFresh n j hj)
      · rw [hts n (Prod.mk.inj (List.mem_singleton.mp hj)).1.symm]; exact Nat.lt_succ_self s.stamp
    case noPlain =>
      intro hu j hj
      rcases List.mem_append.mp hj with hj | hj
      · exact hnp j hj
      · exact hpl hu (Prod.mk.inj (List.mem_singleton.mp hj)).1.symm
    case dirInodes => simp only [List.map_append, List.map_cons, List.map_nil, h.dirInodes]
    case tsSorted =>
      simp only [List.filterMap_append]
      refine List.pairwise_append.mpr ⟨h.tsSorted, ?_, fun a ha b hb => ?_⟩
      · exact List.pairwise_filterMap.mpr (List.pairwise_singleton ..)
      · rw [mem_filterMap_tsOf] at ha hb
        exact hts b.1 (Prod.mk.inj (List.mem_singleton.mp hb)).1.symm ▸ h.tsFresh _ _ ha

theorem Ord.ids_nodup {c : Cfg} {s : St} (h : Ord c s) : (s.inodes.map (·.id)).Nodup :=
  h.sorted.imp Nat.ne_of_lt

theorem Ord.nodup {c : Cfg} {s : St} (h : Ord c s) : (s.dir.map (·.2)).Nodup :=
  h.dirInodes ▸ h.ids_nodup

theorem plain_is_last {c : Cfg} {s : St} (h : Ord c s) {i : Nat} (hm : (Name.plain, i) ∈ s.dir) :
    ∃ pre, s.dir = pre ++ [(Name.plain, i)] ∧ ∀ e ∈ pre, e.1 ≠ Name.plain := by
  have hlast := h.plainLast i hm
  obtain ⟨pre, x, hd, hx, hpre⟩ := Keyed.eq_concat_of_getLast? h.nodup (h.dirInodes ▸ hlast)
  obtain rfl : x = (Name.plain, i) := Keyed.eq_of_key_eq h.nodup (hd ▸ List.mem_concat_self) hm hx
  refine ⟨pre, hd, fun e he hp => hpre e he ?_⟩
  have : (Name.plain, e.2) ∈ s.dir := hd ▸ List.mem_append_left _ (hp ▸ he)
  exact Option.some.inj ((h.plainLast e.2 this).symm.trans hlast)

theorem ord_renamePlain {c : Cfg} {s : St} (h : Ord c s) {i : Nat} (hm : (Name.plain, i) ∈ s.dir) :
    Ord c (renamePlain s i) := by
  obtain ⟨pre, hd, hnp⟩ := plain_is_last h hm
  have hdir : (renamePlain s i).dir = pre ++ [(Name.ts s.stamp, i)] := by
    simp only [renamePlain, hd, List.map_append, Keyed.map_ite_eq_self hnp, List.map_cons, List.map_nil, beq_self_eq_true',
      if_true]
  have hsub : ∀ e ∈ pre, e ∈ s.dir := fun e he => hd ▸ List.mem_append_left _ he
  refine { h with
    plainLast := fun j hj => absurd hj (renamePlain_noPlain s i j)
    idFresh := fun x hx => Nat.lt_succ_of_lt (h.idFresh x hx)
    tsFresh := fun n j hj => ?_
    noPlain := fun _ j => renamePlain_noPlain s i j
    dirInodes := ?_
    tsSorted := ?_ }
  · rcases List.mem_append.mp (hdir ▸ hj) with hj | hj
    · exact Nat.lt_succ_of_lt (h.tsFresh n j (hsub _ hj))
    · exact Name.ts.inj (Prod.mk.inj (List.mem_singleton.mp hj)).1 ▸ Nat.lt_succ_self s.stamp
  · show _ = s.inodes.map (·.id)
    rw [hdir, ← h.dirInodes, hd, List.map_append, List.map_append]; rfl
  · -- the renamed file carries the newest timestamp and stands last
    have hts := h.tsSorted
    rw [hd, List.filterMap_append] at hts
    rw [hdir, List.filterMap_append]
    refine List.pairwise_append.mpr ⟨(List.pairwise_append.mp hts).1, List.pairwise_singleton .., fun a ha b hb => ?_⟩
    rw [List.mem_singleton.mp hb]
    exact h.tsFresh _ _ (hsub _ (mem_filterMap_tsOf.mp ha))

/-- The `gone` of `prune`, with the listing read off the directory as it stands, without the sort of `tsFiles`. -/
def stale (c : Cfg) (s : St) : List Nat :=
  ((s.dir.filterMap tsOf).take ((s.dir.filterMap tsOf).length - c.maxFiles)).map (·.2)

/-- In an ordered state the sorted listing is the directory's own order, and an inode has one entry,
so `pruneFiles` removes the stale inodes together with whatever names them. -/
theorem prune_of_ord {c : Cfg} {s : St} (h : Ord c s) (hm : c.maxFiles ≠ 0) :
    prune c s = { s with dir := s.dir.filter (fun x => !(stale c s).contains x.2),
                         inodes := s.inodes.filter (fun x => !(stale c s).contains x.id),
                         removed := s.removed ++ s.inodes.filter (fun x => (stale c s).contains x.id) } := by
  have hdir : s.dir.filter (fun x => !((stale c s).contains x.2 && isTs x.1))
      = s.dir.filter (fun x => !(stale c s).contains x.2) := by
    refine List.filter_congr fun x hx => ?_
    cases hc : (stale c s).contains x.2 with
    | false => rfl
    | true =>
      obtain ⟨e, he, hex⟩ := List.mem_map.mp (List.contains_iff_mem.mp hc)
      have hn := mem_filterMap_tsOf.mp (List.mem_of_mem_take he)
      rw [Keyed.eq_of_key_eq h.nodup hx hn hex.symm]
      rfl
  simp only [prune, beq_iff_eq, hm, if_false, tsFiles_eq, sortTs_of_sorted h.tsSorted]
  rw [← hdir]
  rfl

theorem Ord.filter {c : Cfg} {s : St} (h : Ord c s) (p : Nat → Bool) {r : List Inode} (hfd : s.fd = none)
    (hnp : ∀ j, (Name.plain, j) ∉ s.dir) :
    Ord c { s with dir := s.dir.filter (fun x => p x.2), inodes := s.inodes.filter (fun x => p x.id), removed := r } :=
  have hsub : ∀ e ∈ s.dir.filter (fun x => p x.2), e ∈ s.dir := fun _ he => (List.mem_filter.mp he).1
  { fdLast := fun _ hj => (nomatch hfd.symm.trans hj)
    plainLast := fun j hj => absurd (hsub _ hj) (hnp j)
    sorted := h.sorted.sublist (List.filter_sublist.map _)
    idFresh := fun x hx => h.idFresh x (List.mem_filter.mp hx).1
    tsFresh := fun n j hj => h.tsFresh n j (hsub _ hj)
    noPlain := fun hu j hj => h.noPlain hu j (hsub _ hj)
    dirInodes := List.filter_map.symm.trans ((congrArg _ h.dirInodes).trans List.filter_map)
    tsSorted := h.tsSorted.sublist (List.filter_sublist.filterMap _) }

theorem ord_prune {c : Cfg} {s : St} (h : Ord c s) (hfd : s.fd = none) (hnp : ∀ j, (Name.plain, j) ∉ s.dir) :
    Ord c (prune c s) := by
  by_cases hm : c.maxFiles = 0
  · rw [prune_zero hm]; exact h
  · rw [prune_of_ord h hm]
    exact h.filter (fun j => !(stale c s).contains j) hfd hnp

theorem ord_rotate {c : Cfg} {s : St} {el : Nat} (h : Ord c s) : Ord c (rotate c s el).1 := by
  rcases rotate_cases c s el with ⟨_, e⟩ | e | ⟨hu, e⟩ | ⟨i, hi, e⟩ <;> simp only [e]
  · exact h
  · exact ord_close h
  · exact ord_open (ord_prune (ord_close h) rfl ((ord_close h).noPlain hu))
  · exact ord_open (ord_prune (ord_renamePlain (ord_close h) hi) rfl (renamePlain_noPlain _ i))

theorem ord_append {c : Cfg} {s : St} {i ev size : Nat} (h : Ord c s) : Ord c (appendTo s i ev size) :=
  h.of_ids (appendTo_ids s i ev size) rfl (Nat.le_refl _) h.fdLast

theorem ord_extRename {c : Cfg} {s : St} {n : Name} {k : Nat} (h : Ord c s) :
    Ord c { s with dir := s.dir.map (fun x => if x.1 == n then (Name.foreign k, x.2) else x) } := by
  have hmem : ∀ nm j, nm ≠ Name.foreign k →
      (nm, j) ∈ s.dir.map (fun x => if x.1 == n then (Name.foreign k, x.2) else x) → (nm, j) ∈ s.dir := by
    intro nm j hne hj
    obtain ⟨x, hx, hxe⟩ := List.mem_map.mp hj
    split at hxe
    · exact absurd (Prod.mk.inj hxe).1.symm hne
    · exact hxe ▸ hx
  refine { h with
    plainLast := fun j hj => h.plainLast j (hmem _ _ Name.noConfusion hj)
    tsFresh := fun m j hj => h.tsFresh m j (hmem _ _ Name.noConfusion hj)
    noPlain := fun hu j hj => h.noPlain hu j (hmem _ _ Name.noConfusion hj)
    dirInodes := (Keyed.map_map_ite (·.2) (fun x => (Name.foreign k, x.2)) fun _ => rfl).trans h.dirInodes
    tsSorted := ?_ }
  have hts : ∀ a x, tsOf (if a.1 == n then (Name.foreign k, a.2) else a) = some x → tsOf a = some x := by
    intro a x hx
    split at hx
    · exact nomatch hx
    · exact hx
  refine List.pairwise_filterMap.mpr (List.pairwise_map.mpr ?_)
  exact (List.pairwise_filterMap.mp h.tsSorted).imp fun {a b} hab x hx y hy => hab x (hts a x hx) y (hts b y hy)

theorem ord_step {c : Cfg} {s : St} (op : Op) (h : Ord c s) : Ord c (step c s op).1 :=
  step_induct (P := Ord c) (fun _ => ord_open) (fun _ => ord_close) (fun _ _ => ord_rotate)
    (fun _ _ _ _ _ => ord_append) (fun _ _ _ _ => ord_extRename) s h

theorem ord_run (c : Cfg) (ops : List Op) : ∀ s, Ord c s → Ord c (run c s ops) :=
  run_induct (P := Ord c) fun _ op _ => ord_step op

theorem append_at_end {c : Cfg} {s : St} (h : Ord c s) {i : Nat} (hfd : s.fd = some i) (ev size : Nat) :
    contents (appendTo s i ev size) = contents s ++ [ev] := by
  obtain ⟨pre, x, hs, hx, hpre⟩ := Keyed.eq_concat_of_getLast? h.ids_nodup (h.fdLast i hfd)
  simp only [appendTo, contents, hs, List.map_append, Keyed.map_ite_eq_self hpre, List.map_singleton, hx,
    beq_self_eq_true', if_true, List.flatMap_append, List.flatMap_singleton, List.append_assoc]

end Evl.FileSink
