import Evl.Lemmas.RegistryStep
/-! The registry invariant; its preservation is one lemma per effect on the broker. -/
namespace Evl.Registry

structure Inv (b : Broker) : Prop where
  -- the two lists are maps: one entry per node id, one pipeline per (type, id)
  nkeys : (b.nodes.map (·.1)).Nodup
  pkeys : (b.pipes.map key).Nodup
  -- C06: the reference count is the number of pipelines that list the node
  refs : ∀ id e, (id, e) ∈ b.nodes → e.refs = listing b.pipes id
  listed : ∀ p ∈ b.pipes, ∀ id, p.ids.contains id = true → ∃ e, (id, e) ∈ b.nodes
  -- a pipeline's graph exists: RemovePipeline(AndNodes) look the graph up first and would refuse otherwise
  graphs : ∀ p ∈ b.pipes, (lookupGraph b.graphs p.ty).isSome = true

theorem inv_init : Inv init := by
  constructor <;> simp [init]

theorem Inv.refs_split {b : Broker} (hi : Inv b) {ty pid : Nat} {o : Pipe} (ho : lookupPipe b.pipes ty pid = some o)
    {id : Nat} {e : NodeEntry} (hm : (id, e) ∈ b.nodes) :
    e.refs = listing (erasePipe b.pipes ty pid) id + if o.ids.contains id then 1 else 0 :=
  (hi.refs id e hm).trans (listing_erasePipe hi.pkeys ho id)

theorem Inv.last_ref {b : Broker} (hi : Inv b) {ty pid : Nat} {o : Pipe} (ho : lookupPipe b.pipes ty pid = some o)
    {id : Nat} {e : NodeEntry} (hm : (id, e) ∈ b.nodes) (hc : id ∈ o.ids) :
    e.refs ≤ 1 ↔ listing (erasePipe b.pipes ty pid) id = 0 := by
  rw [hi.refs_split ho hm, if_pos (List.contains_iff_mem.mpr hc)]
  exact Nat.succ_le_succ_iff.trans Nat.le_zero

theorem inv_with_graphs {b : Broker} (hi : Inv b) {gs : List Graph}
    (hg : ∀ t, (lookupGraph b.graphs t).isSome = true → (lookupGraph gs t).isSome = true) :
    Inv { b with graphs := gs } :=
  { hi with graphs := fun p hp => hg _ (hi.graphs p hp) }

theorem inv_putNode {b : Broker} (hi : Inv b) (id : Nat) (e : NodeEntry) (he : e.refs = listing b.pipes id) (n : Nat) :
    Inv { b with nodes := putNode b.nodes id e, nextInst := n } := by
  refine { hi with nkeys := Keyed.keys_put_nodup hi.nkeys _ _, refs := fun i e' hm => ?_, listed := fun p hp i hc => ?_ }
  · rcases mem_putNode.mp hm with ⟨hm, _⟩ | heq
    · exact hi.refs i e' hm
    · cases heq; exact he
  · obtain ⟨e', he'⟩ := hi.listed p hp i hc
    by_cases hii : i = id
    · exact ⟨e, mem_putNode.mpr (Or.inr (by rw [hii]))⟩
    · exact ⟨e', mem_putNode.mpr (Or.inl ⟨he', hii⟩)⟩

theorem inv_eraseNode {b : Broker} (hi : Inv b) (id : Nat) (h0 : listing b.pipes id = 0) :
    Inv { b with nodes := eraseNode b.nodes id } := by
  refine { hi with
    nkeys := Keyed.nodup_map_filter hi.nkeys
    refs := fun i e hm => hi.refs i e (mem_eraseNode.mp hm).1
    listed := fun p hp i hc => ?_ }
  obtain ⟨e, he⟩ := hi.listed p hp i hc
  refine ⟨e, mem_eraseNode.mpr ⟨he, fun hii => ?_⟩⟩
  rw [show i = id from hii, listing_zero_iff.mp h0 p hp] at hc
  cases hc

/-- Taking the pipeline `o` out, together with any nodes that no other pipeline lists: RemovePipeline
(every node stays) and RemovePipelineAndNodes at once. -/
theorem inv_erasePipe {b : Broker} (hi : Inv b) {ty pid : Nat} {o : Pipe} (ho : lookupPipe b.pipes ty pid = some o)
    (keep : Nat × NodeEntry → Bool)
    (hkeep : ∀ id e, (id, e) ∈ b.nodes → keep (id, e) = false → listing (erasePipe b.pipes ty pid) id = 0) :
    Inv { b with nodes := release (b.nodes.filter keep) o.ids, pipes := erasePipe b.pipes ty pid } := by
  refine ⟨by rw [keys_release]; exact Keyed.nodup_map_filter hi.nkeys, Keyed.nodup_map_filter hi.pkeys, ?_, ?_, ?_⟩
  · intro id e hm
    obtain ⟨e0, hm0, rfl⟩ := mem_release.mp hm
    have h := hi.refs_split ho (List.mem_filter.mp hm0).1
    cases hc : o.ids.contains id <;> rw [hc] at h
    · exact h
    · exact Nat.sub_eq_of_eq_add h
  · intro q hq id hc
    obtain ⟨e, he⟩ := hi.listed q (mem_erasePipe.mp hq).1 id hc
    refine (registered_congr (keys_release _ _)).mpr ⟨e, List.mem_filter.mpr ⟨he, ?_⟩⟩
    cases hk : keep (id, e) with
    | true => rfl
    | false =>
      rw [listing_zero_iff.mp (hkeep id e he hk) q hq] at hc
      cases hc
  · intro q hq
    exact hi.graphs q (mem_erasePipe.mp hq).1

/-- RemovePipeline's effect on a broker, whether or not the key is registered -/
theorem inv_dropPipe {b : Broker} (hi : Inv b) (ty pid : Nat) :
    Inv { b with nodes := releaseOld b.nodes (lookupPipe b.pipes ty pid), pipes := erasePipe b.pipes ty pid } := by
  cases ho : lookupPipe b.pipes ty pid with
  | none =>
    rw [erasePipe_of_none ho]
    exact hi
  | some o =>
    have := inv_erasePipe hi ho (fun _ => true) (fun _ _ _ h => nomatch h)
    rwa [List.filter_eq_self.mpr fun _ _ => rfl] at this

theorem inv_addPipe {b : Broker} (hi : Inv b) (p : Pipe) {ids : List Nat} (hids : p.ids = ids)
    (hfree : lookupPipe b.pipes p.ty p.pid = none) (hreg : ∀ id ∈ ids, ∃ e, (id, e) ∈ b.nodes)
    (hg : (lookupGraph b.graphs p.ty).isSome = true) :
    Inv { b with nodes := acquire b.nodes ids, pipes := b.pipes ++ [p] } := by
  subst hids
  refine ⟨by rw [keys_acquire]; exact hi.nkeys, ?_, ?_, ?_, ?_⟩
  · have := keys_erasePipe_append_nodup hi.pkeys p
    rwa [erasePipe_of_none hfree] at this
  · intro id e hm
    obtain ⟨e0, hm0, rfl⟩ := mem_acquire.mp hm
    have h0 := hi.refs id e0 hm0
    unfold listing at h0 ⊢
    rw [List.countP_append, List.countP_singleton, ← h0]
    cases p.ids.contains id <;> rfl
  · intro q hq id hc
    apply (registered_congr (keys_acquire _ _)).mpr
    rcases List.mem_append.mp hq with hq | hq
    · exact hi.listed q hq id hc
    · rw [List.mem_singleton.mp hq] at hc
      exact hreg id (List.contains_iff_mem.mp hc)
  · intro q hq
    rcases List.mem_append.mp hq with hq | hq
    · exact hi.graphs q hq
    · rw [List.mem_singleton.mp hq]; exact hg

theorem inv_step {b : Broker} (hi : Inv b) (op : Op) : Inv (step b op).1 := by
  have hs := step_spec b op
  generalize step b op = s at hs ⊢
  induction hs with
  | refused => exact hi
  | refusedLate ty => exact inv_with_graphs hi (lookupGraph_ensure_mono ty)
  | passive op gs r _ hgs => exact inv_with_graphs hi hgs
  | regNode id ty beh cf pol =>
    apply inv_putNode hi
    -- the count carried over is right: an id that is not registered is listed by no pipeline
    cases hl : lookupNode b.nodes id with
    | some old => exact hi.refs id old (Keyed.assoc_eq_some hl)
    | none =>
      refine (listing_zero_iff.mpr fun p hp => ?_).symm
      cases hc : p.ids.contains id with
      | false => rfl
      | true =>
        obtain ⟨e, he⟩ := hi.listed p hp id hc
        exact absurd he (Keyed.assoc_eq_none hl e)
  | removeNode id e hl hz =>
    exact inv_eraseNode hi id ((hi.refs id e (Keyed.assoc_eq_some hl)).symm.trans hz)
  | regPipe ty pid ids pol bound _ _ _ hr =>
    -- RegisterPipeline = make sure the graph is there, drop what the key held, add the new pipeline
    have h0 := inv_with_graphs hi (lookupGraph_ensure_mono ty)
    exact inv_addPipe (inv_dropPipe h0 ty pid) { ty := ty, pid := pid, nodes := bound, deny := polDeny pol }
      (resolve_ids hr) lookupPipe_erasePipe
      (fun id hid => (registered_congr (keys_releaseOld _ _)).mpr (resolve_registered hr id hid)) lookupGraph_ensure_self
  | removePipe ty pid => exact inv_dropPipe hi ty pid
  | rpan ty pid o ho =>
    rw [detachAll_kept_eq]
    refine inv_erasePipe hi ho _ fun id e hm hk => ?_
    simp only [Bool.not_eq_false', Bool.and_eq_true, decide_eq_true_eq, List.contains_iff_mem] at hk
    exact (hi.last_ref ho hm hk.1).mp hk.2

theorem inv_run (ops : List Op) {b : Broker} (hi : Inv b) : Inv (run b ops) :=
  run_induct (P := Inv) (fun _ op hi => inv_step hi op) b hi

end Evl.Registry
