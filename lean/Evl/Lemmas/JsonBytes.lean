import Evl.Lemmas.JsonString
import Evl.Lemmas.JsonRender
/-!
# What the encoder writes from byte strings is a byte string

The model's bytes are natural numbers; `bytesOK` says they are below 256.  By the two induction rules,
`esc_induct` (an item's bytes are ASCII or bytes of what it stands for) and `renderToks_forall`.
-/
namespace Evl.Json

def bytesOK (l : Bytes) : Prop := ∀ b ∈ l, b < 256

/-- so that `by decide` proves it of a literal -/
instance (l : Bytes) : Decidable (bytesOK l) := inferInstanceAs (Decidable (∀ b ∈ l, b < 256))

theorem bytesOK_nil : bytesOK [] := fun _ h => nomatch h
theorem bytesOK_append {a b : Bytes} : bytesOK (a ++ b) ↔ bytesOK a ∧ bytesOK b := List.forall_mem_append

theorem item_ok {p d : Bytes} (h : Item p d) (hok : bytesOK d) : bytesOK p :=
  fun x hx => (item_bytes h x hx).2.elim (fun h => Nat.lt_trans h (by decide)) (hok x)

theorem escBytes_ok (s : Bytes) : bytesOK s → bytesOK (escBytes s) :=
  esc_induct (P := fun s e _ => bytesOK s → bytesOK e) (fun h => h)
    (fun hi hs ih h => bytesOK_append.mpr ⟨item_ok hi (by
      rcases hs with rfl | rfl
      · exact (bytesOK_append.mp h).1
      · decide),
      ih (bytesOK_append.mp h).2⟩) s

theorem quote_ok (s : Bytes) (h : bytesOK s) : bytesOK (quote s) :=
  bytesOK_append.mpr ⟨bytesOK_append.mpr ⟨by decide, escBytes_ok s h⟩, by decide⟩

def tokOK : Tok → Prop
  | .num t => bytesOK t
  | .str s => bytesOK s
  | .key s => bytesOK s
  | _ => True

theorem tokText_ok (t : Tok) (h : tokOK t) : bytesOK (tokText t) := by
  cases t with
  | num tok => exact h
  | str s => exact quote_ok s h
  | key s => exact bytesOK_append.mpr ⟨quote_ok s h, by decide⟩
  | bool b => cases b <;> decide
  | _ => decide

theorem renderToks_ok {ts : List Tok} {st : Stack} {ak : Bool} {out : Bytes} (hok : ∀ t ∈ ts, tokOK t) :
    renderToks ts st ak = some out → bytesOK out :=
  renderToks_forall bytesOK_nil (by decide)
    (fun ha hb => bytesOK_append.mpr ⟨ha, hb⟩) ts st ak out (fun t ht => tokText_ok t (hok t ht))

def allOK : List Tok → Prop
  | [] => True
  | t :: ts => tokOK t ∧ allOK ts

theorem allOK_append (a b : List Tok) : allOK (a ++ b) ↔ allOK a ∧ allOK b := by
  induction a with
  | nil => simp [allOK]
  | cons t ts ih => simp [allOK, ih, and_assoc]

theorem allOK_mem : ∀ (ts : List Tok), allOK ts → ∀ t ∈ ts, tokOK t
  | [], _ => fun _ h => nomatch h
  | _ :: ts, h => List.forall_mem_cons.mpr ⟨h.1, allOK_mem ts h.2⟩

end Evl.Json
