import Evl.Model.Json
/-!
# M8's renderer, one token at a time

`renderToks` writes, for each token, an optional comma and the token's own text (`tokText`), and moves to
the next encoder state (`encStep`): `renderToks_cons`.  Every statement of the form "the rendering
satisfies `P`" for a `P` closed under concatenation then needs `P` of the comma and of each token's text
only: `renderToks_forall`.
-/
namespace Evl.Json

def tokText : Tok → Bytes
  | .null => [110, 117, 108, 108]
  | .bool true => [116, 114, 117, 101]
  | .bool false => [102, 97, 108, 115, 101]
  | .num tok => tok
  | .str s => quote s
  | .key s => quote s ++ [58]
  | .beginObj => [123]
  | .beginArr => [91]
  | .endObj => [125]
  | .endArr => [93]
  | .unsupported => []

/-- `comma`: the encoder's `if i > 0 { e.WriteByte(',') }` before a token -/
structure EncStep where
  comma : Bytes
  st : Stack
  afterKey : Bool

def encStep (t : Tok) (st : Stack) (ak : Bool) : EncStep :=
  match t with
  | .key _ => ⟨(sep st false).1, (sep st false).2, true⟩
  | .beginObj | .beginArr => ⟨(sep st ak).1, false :: (sep st ak).2, false⟩
  | .endObj | .endArr => ⟨[], st.tail, false⟩
  | _ => ⟨(sep st ak).1, (sep st ak).2, false⟩

theorem map_map_app (o : Option Bytes) (a b : Bytes) :
    (o.map (a ++ ·)).map (b ++ ·) = o.map (b ++ a ++ ·) := by
  cases o <;> simp [List.append_assoc]

theorem map_congr_app (o : Option Bytes) (a b : Bytes) (h : a = b) : o.map (a ++ ·) = o.map (b ++ ·) := by
  rw [h]

theorem renderToks_cons (t : Tok) (ts : List Tok) (st : Stack) (ak : Bool) (h : t ≠ .unsupported) :
    renderToks (t :: ts) st ak =
      (renderToks ts (encStep t st ak).st (encStep t st ak).afterKey).map ((encStep t st ak).comma ++ tokText t ++ ·) := by
  cases t with
  | unsupported => exact absurd rfl h
  | bool b => cases b <;> rfl
  | key s => exact map_congr_app _ _ _ (List.append_assoc _ _ _)
  | _ => rfl

theorem sep_cons (f : Bool) (st : Stack) : sep (f :: st) false = (if f then [44] else [], true :: st) := by
  cases f <;> rfl

theorem sep_key (st : Stack) : sep st true = ([], st) := rfl

theorem sep_comma {P : Bytes → Prop} (nil : P []) (comma : P [44]) (st : Stack) (ak : Bool) : P (sep st ak).1 := by
  cases ak
  · rcases st with _ | ⟨_ | _, r⟩
    · exact nil
    · exact nil
    · exact comma
  · exact nil

theorem encStep_comma {P : Bytes → Prop} (nil : P []) (comma : P [44]) (t : Tok) (st : Stack) (ak : Bool) :
    P (encStep t st ak).comma := by
  cases t <;> first | exact sep_comma nil comma _ _ | exact nil

theorem renderToks_forall {P : Bytes → Prop} (nil : P []) (comma : P [44]) (app : ∀ {a b}, P a → P b → P (a ++ b))
    (ts : List Tok) (st : Stack) (ak : Bool) (out : Bytes) (hts : ∀ t ∈ ts, P (tokText t))
    (h : renderToks ts st ak = some out) : P out := by
  induction ts generalizing st ak out with
  | nil => cases h; exact nil
  | cons t ts ih =>
    have hne : t ≠ .unsupported := by rintro rfl; cases h
    rw [renderToks_cons t ts st ak hne] at h
    obtain ⟨r, hr, rfl⟩ := Option.map_eq_some_iff.mp h
    obtain ⟨ht, hts⟩ := List.forall_mem_cons.mp hts
    exact app (app (encStep_comma nil comma t st ak) ht) (ih _ _ _ hts hr)

theorem render_unsupported (ts : List Tok) (st : Stack) (ak : Bool) (h : Tok.unsupported ∈ ts) : renderToks ts st ak = none := by
  induction ts generalizing st ak with
  | nil => cases h
  | cons t ts ih =>
    by_cases hu : t = .unsupported
    · subst hu; rfl
    · rw [renderToks_cons t ts st ak hu, ih _ _ ((List.mem_cons.mp h).resolve_left (fun e => hu e.symm))]; rfl

theorem formatEvent_some {created ty : Bytes} {payload : List Tok} {b : Bytes} (h : formatEvent created ty payload = some b) :
    ∃ p, render payload = some p ∧ b = kCreated ++ created ++ kType ++ quote ty ++ kPayload ++ p ++ [125, 10] := by
  obtain ⟨p, hp, rfl⟩ := Option.map_eq_some_iff.mp h
  exact ⟨p, hp, rfl⟩

end Evl.Json
