import Evl.Lemmas.JsonString
import Evl.Lemmas.JsonRender
/-!
# M8r's parser reads back what M8's renderer writes

The proof follows the parser: one equation per leading byte (`parseV_str`, … `parseM_more`) against the text in
the same shape (`renderJ_arr`, … `renderM_true_cons`); `sz_le` bounds the fuel by the length of the text.
-/
namespace Evl.Json

/- In continuation form (`ts` is what follows), so that the three can be used as rewrite rules.  The top of
the encoder's stack — has an element of the open container been written? — is the flag of `renderL` /
`renderM` that puts a comma before the first element. -/
mutual
theorem renderToks_toks : ∀ (v : J) (ts : List Tok) (st : Stack) (ak : Bool),
    renderToks (toks v ++ ts) st ak = (renderToks ts (sep st ak).2 false).map ((sep st ak).1 ++ renderJ v ++ ·)
  | .null | .bool true | .bool false | .num _ | .str _ => fun _ _ _ => rfl
  | .arr es => fun ts st ak => by
    simp only [toks, List.append_assoc, List.cons_append, List.nil_append, renderToks, renderJ,
      renderToks_toksL es ts (sep st ak).2 false, Option.map_map, Function.comp_def]
  | .obj ms => fun ts st ak => by
    simp only [toks, List.append_assoc, List.cons_append, List.nil_append, renderToks, renderJ,
      renderToks_toksM ms ts (sep st ak).2 false, Option.map_map, Function.comp_def]
theorem renderToks_toksL : ∀ (es : JL) (ts : List Tok) (st0 : Stack) (f : Bool),
    renderToks (toksL es ++ .endArr :: ts) (f :: st0) false = (renderToks ts st0 false).map (renderL f es ++ [93] ++ ·)
  | .nil => fun _ _ _ => rfl
  | .cons v r => fun ts st0 f => by
    simp only [toksL, List.append_assoc, renderL, renderToks_toks v, sep_cons, renderToks_toksL r ts st0 true, Option.map_map,
      Function.comp_def]
theorem renderToks_toksM : ∀ (ms : JM) (ts : List Tok) (st0 : Stack) (f : Bool),
    renderToks (toksM ms ++ .endObj :: ts) (f :: st0) false = (renderToks ts st0 false).map (renderM f ms ++ [125] ++ ·)
  | .nil => fun _ _ _ => rfl
  | .cons k v r => fun ts st0 f => by
    simp only [toksM, List.append_assoc, List.cons_append, List.nil_append, renderM, renderToks, renderToks_toks v, sep_cons,
      sep_key, renderToks_toksM r ts st0 true, Option.map_map, Function.comp_def]
end

/-- **M8's renderer writes `renderJ`** (C14). -/
theorem render_toks (v : J) : render (toks v) = some (renderJ v) := by
  have h := renderToks_toks v [] [] false
  simp only [List.append_nil] at h
  unfold render
  rw [h]
  simp [sep, renderToks]

/-- a number literal has no closing byte: it is read back alone only before nothing, or before a byte that cannot
continue it -/
def okRest : Bytes → Prop
  | [] => True
  | c :: _ => isNumChar c = false

theorem okRest_10 (r : Bytes) : okRest (10 :: r) := rfl

theorem spanNum_app (lit rest : Bytes) (hl : lit.all isNumChar = true) (hr : okRest rest) :
    spanNum (lit ++ rest) = (lit, rest) := by
  induction lit with
  | nil =>
    cases rest with
    | nil => simp [spanNum]
    | cons c r => simp only [okRest] at hr; simp [spanNum, hr]
  | cons c t ih =>
    simp only [List.all_cons, Bool.and_eq_true] at hl
    simp only [List.cons_append, spanNum, hl.1, if_true, ih hl.2]

theorem renderJ_arr (es : JL) (x : Bytes) : renderJ (.arr es) ++ x = 91 :: (renderL false es ++ 93 :: x) := by
  simp [renderJ]
theorem renderJ_obj (ms : JM) (x : Bytes) : renderJ (.obj ms) ++ x = 123 :: (renderM false ms ++ 125 :: x) := by
  simp [renderJ]
theorem renderL_false_cons (v : J) (r : JL) (x : Bytes) :
    renderL false (.cons v r) ++ x = renderJ v ++ (renderL true r ++ x) := by
  simp [renderL]
theorem renderL_true_cons (v : J) (r : JL) (x : Bytes) :
    renderL true (.cons v r) ++ x = 44 :: (renderL false (.cons v r) ++ x) := rfl
theorem renderM_false_cons (k : Bytes) (v : J) (r : JM) (x : Bytes) :
    renderM false (.cons k v r) ++ x = 34 :: (escBytes k ++ 34 :: 58 :: (renderJ v ++ (renderM true r ++ x))) := by
  simp [renderM, quote]
theorem renderM_true_cons (k : Bytes) (v : J) (r : JM) (x : Bytes) :
    renderM true (.cons k v r) ++ x = 44 :: (renderM false (.cons k v r) ++ x) := rfl

theorem parseL_last {f : Nat} {inp r : Bytes} {v : J} (h : parseV f inp = some (v, 93 :: r)) :
    parseL (f + 1) inp = some (.cons v .nil, r) := by
  simp only [parseL, h]
theorem parseL_more {f : Nat} {inp r r' : Bytes} {v : J} {es : JL} (h : parseV f inp = some (v, 44 :: r))
    (h' : parseL f r = some (es, r')) : parseL (f + 1) inp = some (.cons v es, r') := by
  simp only [parseL, h, h']
theorem parseM_last {f : Nat} {r0 r r' k : Bytes} {v : J} (hk : readStr .normal r0 = some (k, 58 :: r))
    (h : parseV f r = some (v, 125 :: r')) : parseM (f + 1) (34 :: r0) = some (.cons k v .nil, r') := by
  simp only [parseM, hk, h]
theorem parseM_more {f : Nat} {r0 r r' r'' k : Bytes} {v : J} {ms : JM} (hk : readStr .normal r0 = some (k, 58 :: r))
    (h : parseV f r = some (v, 44 :: r')) (h' : parseM f r' = some (ms, r'')) :
    parseM (f + 1) (34 :: r0) = some (.cons k v ms, r'') := by
  simp only [parseM, hk, h, h']
/-- `]` starts no value, `}` no member: what `parseL` / `parseM` accept is not the rest of an empty container -/
theorem parseL_close (f : Nat) (r : Bytes) : parseL f (93 :: r) = none := by
  rcases f with _ | _ | f <;> rfl
theorem parseM_close (f : Nat) (r : Bytes) : parseM f (125 :: r) = none := by
  cases f <;> rfl
theorem parseV_str {f : Nat} {r r' s : Bytes} (h : readStr .normal r = some (s, r')) :
    parseV (f + 1) (34 :: r) = some (.str s, r') := by
  unfold parseV
  rw [if_pos rfl, h]
theorem parseV_num {f : Nat} {lit rest : Bytes} (hne : lit ≠ []) (hall : lit.all isNumChar = true) (hv : validNum lit = true)
    (hr : okRest rest) : parseV (f + 1) (lit ++ rest) = some (.num lit, rest) := by
  have hs := spanNum_app lit rest hall hr
  obtain ⟨c, t, rfl⟩ := List.exists_cons_of_ne_nil hne
  -- `c` is none of `" [ { n t f`
  have ne (x : Nat) (hx : isNumChar x = false) : ¬ c = x := numChar_ne (List.all_eq_true.mp hall c List.mem_cons_self) hx
  rw [List.cons_append] at hs ⊢
  unfold parseV
  rw [if_neg (ne 34 rfl), if_neg (ne 91 rfl), if_neg (ne 123 rfl), if_neg (ne 110 rfl), if_neg (ne 116 rfl), if_neg (ne 102 rfl)]
  simp only [hs, if_pos hv]
theorem parseV_arr {f : Nat} {inp r' : Bytes} {es : JL} (h : parseL f inp = some (es, r')) :
    parseV (f + 1) (91 :: inp) = some (.arr es, r') := by
  unfold parseV
  rw [if_neg (by decide), if_pos rfl]
  split
  · rw [parseL_close] at h; cases h
  · rw [h]
theorem parseV_obj {f : Nat} {inp r' : Bytes} {ms : JM} (h : parseM f inp = some (ms, r')) :
    parseV (f + 1) (123 :: inp) = some (.obj ms, r') := by
  unfold parseV
  rw [if_neg (by decide), if_neg (by decide), if_pos rfl]
  split
  · rw [parseM_close] at h; cases h
  · rw [h]

theorem fuel_succ {a b : Nat} (fuel : Nat) (h : 1 + a + b ≤ fuel) : ∃ f, fuel = f + 1 ∧ a ≤ f ∧ b ≤ f := by
  rw [Nat.add_assoc, Nat.add_comm 1] at h
  cases fuel with
  | zero => exact absurd h (Nat.not_succ_le_zero _)
  | succ f =>
    have h := Nat.le_of_succ_le_succ h
    exact ⟨f, rfl, Nat.le_trans (Nat.le_add_right a b) h, Nat.le_trans (Nat.le_add_left b a) h⟩

mutual
theorem parseV_render : ∀ (v : J) (fuel : Nat) (rest : Bytes), wf v = true → sz v ≤ fuel → okRest rest →
    parseV fuel (renderJ v ++ rest) = some (image v, rest)
  | .null | .bool true | .bool false | .arr .nil | .obj .nil => fun fuel _ _ hf _ => by
    obtain ⟨f, rfl⟩ := Nat.exists_eq_add_one.mpr hf; rfl
  | .str s => fun fuel rest _ hf _ => by
    obtain ⟨f, rfl⟩ := Nat.exists_eq_add_one.mpr hf
    exact parseV_str (read_quote s rest)
  | .num lit => fun fuel rest hw hf hr => by
    obtain ⟨f, rfl⟩ := Nat.exists_eq_add_one.mpr hf
    obtain ⟨hne, hall, hv⟩ := wf_num.mp hw
    exact parseV_num hne hall hv hr
  | .arr (.cons v r) => fun fuel rest hw hf _ => by
    obtain ⟨f, rfl, hf', _⟩ := fuel_succ (a := szL (.cons v r)) (b := 0) fuel hf
    rw [renderJ_arr]
    exact parseV_arr (parseL_render (.cons v r) f rest hw hf' nofun)
  | .obj (.cons k v r) => fun fuel rest hw hf _ => by
    obtain ⟨f, rfl, hf', _⟩ := fuel_succ (a := szM (.cons k v r)) (b := 0) fuel hf
    rw [renderJ_obj]
    exact parseV_obj (parseM_render (.cons k v r) f rest hw hf' nofun)
theorem parseL_render : ∀ (es : JL) (fuel : Nat) (rest : Bytes), wfL es = true → szL es ≤ fuel → es ≠ .nil →
    parseL fuel (renderL false es ++ 93 :: rest) = some (imageL es, rest)
  | .nil => fun _ _ _ _ hne => absurd rfl hne
  | .cons v r => fun fuel rest hw hf _ => by
    obtain ⟨f, rfl, hv, hr⟩ := fuel_succ (a := sz v) (b := szL r) fuel hf
    simp only [wfL, Bool.and_eq_true] at hw
    rw [renderL_false_cons]
    -- `cases r` (not a lemma about `renderL true r`) keeps the recursion structural, and shows the byte after the
    -- element (`]` or `,`), which is why `rfl` proves the `okRest _` premise of `parseV_render`
    cases r with
    | nil => exact parseL_last (parseV_render v f _ hw.1 hv rfl)
    | cons v2 r2 =>
      rw [renderL_true_cons]
      exact parseL_more (parseV_render v f _ hw.1 hv rfl)
        (parseL_render (.cons v2 r2) f rest hw.2 hr nofun)
theorem parseM_render : ∀ (ms : JM) (fuel : Nat) (rest : Bytes), wfM ms = true → szM ms ≤ fuel → ms ≠ .nil →
    parseM fuel (renderM false ms ++ 125 :: rest) = some (imageM ms, rest)
  | .nil => fun _ _ _ _ hne => absurd rfl hne
  | .cons k v r => fun fuel rest hw hf _ => by
    obtain ⟨f, rfl, hv, hr⟩ := fuel_succ (a := sz v) (b := szM r) fuel hf
    simp only [wfM, Bool.and_eq_true] at hw
    rw [renderM_false_cons]
    have hk := read_escBytes k (58 :: (renderJ v ++ (renderM true r ++ 125 :: rest)))
    cases r with
    | nil => exact parseM_last hk (parseV_render v f _ hw.1 hv rfl)
    | cons k2 v2 r2 =>
      rw [renderM_true_cons] at hk ⊢
      exact parseM_more hk (parseV_render v f _ hw.1 hv rfl)
        (parseM_render (.cons k2 v2 r2) f rest hw.2 hr nofun)
end

mutual
theorem sz_le : ∀ (v : J), wf v = true → sz v ≤ (renderJ v).length
  | .null | .bool true | .bool false => fun _ => by decide
  | .str s => fun _ => by simp [sz, renderJ, quote]
  | .num lit => fun h => List.length_pos_iff.mpr (wf_num.mp h).1
  | .arr es => fun h => by
    rw [renderJ, List.length_append, List.length_append, Nat.add_assoc]
    exact Nat.add_le_add_left (szL_le es false h) 1
  | .obj ms => fun h => by
    rw [renderJ, List.length_append, List.length_append, Nat.add_assoc]
    exact Nat.add_le_add_left (Nat.le_succ_of_le (szM_le ms false h)) 1
-- `szL` counts an element as its value plus 1, which its comma pays for; the first element has none unless `c`
theorem szL_le : ∀ (es : JL) (c : Bool), wfL es = true → szL es ≤ (renderL c es).length + (if c then 0 else 1)
  | .nil => fun _ _ => Nat.zero_le _
  | .cons v r => fun c h => by
    simp only [wfL, Bool.and_eq_true] at h
    have h1 := sz_le v h.1
    have h2 := szL_le r true h.2
    simp only [if_true] at h2
    cases c <;> simp only [szL, renderL, List.length_append, List.length_cons, List.length_nil, if_true, if_false,
      Bool.false_eq_true] <;> omega
-- a member is its value plus 1, which its colon pays for
theorem szM_le : ∀ (ms : JM) (c : Bool), wfM ms = true → szM ms ≤ (renderM c ms).length
  | .nil => fun _ _ => Nat.zero_le _
  | .cons k v r => fun c h => by
    simp only [wfM, Bool.and_eq_true] at h
    simp only [szM, renderM, List.length_append]
    exact Nat.add_le_add (Nat.add_le_add (Nat.le_add_left 1 _) (sz_le v h.1)) (szM_le r true h.2)
end

mutual
/-- holds e.g. when every string and member name is ASCII (`sanitize_ascii`), or any valid UTF-8 -/
def clean : J → Prop
  | .str s => sanitize s = s
  | .arr es => cleanL es
  | .obj ms => cleanM ms
  | _ => True
def cleanL : JL → Prop
  | .nil => True
  | .cons v r => clean v ∧ cleanL r
def cleanM : JM → Prop
  | .nil => True
  | .cons k v r => sanitize k = k ∧ clean v ∧ cleanM r
end

mutual
/-- C14: on such values the image is the value itself: the line decodes back to exactly the payload -/
theorem image_clean : ∀ (v : J), clean v → image v = v
  | .null | .bool _ | .num _ => fun _ => rfl
  | .str s => fun h => by simp only [clean] at h; simp only [image, h]
  | .arr es => fun h => by simp only [clean] at h; simp only [image, imageL_clean es h]
  | .obj ms => fun h => by simp only [clean] at h; simp only [image, imageM_clean ms h]
theorem imageL_clean : ∀ (es : JL), cleanL es → imageL es = es
  | .nil => fun _ => rfl
  | .cons v r => fun h => by simp only [cleanL] at h; simp only [imageL, image_clean v h.1, imageL_clean r h.2]
theorem imageM_clean : ∀ (ms : JM), cleanM ms → imageM ms = ms
  | .nil => fun _ => rfl
  | .cons k v r => fun h => by simp only [cleanM] at h; simp only [imageM, h.1, image_clean v h.2.1, imageM_clean r h.2.2]
end

/-- **Round trip for values** (C14).  A rendered value, as a whole document, parses back to its image. -/
theorem parse_render (v : J) (h : wf v = true) : parseDoc (renderJ v) = some (image v) := by
  have := parseV_render v ((renderJ v).length + 1) [] h (by have := sz_le v h; omega) trivial
  simp only [List.append_nil] at this
  simp [parseDoc, this]

end Evl.Json
