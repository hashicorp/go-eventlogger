import Evl.Lemmas.Keyed
import Evl.Model.Registry
import Evl.Lemmas.Registry
import Evl.Lemmas.RegistryStep
import Evl.Lemmas.RegistryInv
import Evl.Lemmas.RegistryClose
import Evl.Props.C05
import Evl.Model.NodeClose
import Evl.Props.NodeClose
import Evl.Props.C06
import Evl.Props.C07
import Evl.Props.C20
import Evl.Model.Gated
import Evl.Lemmas.Gated
import Evl.Lemmas.GatedSpec
import Evl.Lemmas.FileSinkOps
import Evl.Lemmas.FileSinkOrd
import Evl.Model.EncryptTree
import Evl.Lemmas.EncryptTree
import Evl.Props.C11
import Evl.Props.C17
import Evl.Model.Dispatch
import Evl.Lemmas.DispatchStep
import Evl.Lemmas.DispatchInv
import Evl.Lemmas.DispatchGhost
import Evl.Props.C01
import Evl.Props.C02
import Evl.Props.C03
import Evl.Model.Lockset
import Evl.Model.Locks
import Evl.Lemmas.Lockset
import Evl.Props.C04
import Evl.Props.C12
import Evl.Props.C19
import Evl.Model.FileSink
import Evl.Props.C08
import Evl.Props.C15
import Evl.Model.Sinks
import Evl.Props.C13
import Evl.Model.Json
import Evl.Lemmas.JsonRender
import Evl.Model.JsonParse
import Evl.Lemmas.JsonString
import Evl.Lemmas.JsonParse
import Evl.Lemmas.JsonBytes
import Evl.Lemmas.JsonCompact
import Evl.Props.C14
import Evl.Props.C14Read
import Evl.Props.C14Parse
import Evl.Model.CloudEvents
import Evl.Props.C18
import Evl.Model.CloudEventsVerify
import Evl.Lemmas.Base64
import Evl.Lemmas.CloudEventsDoc
import Evl.Props.C18Verify
import Evl.Props.C18Text
import Evl.Model.Encrypt
import Evl.Props.C09
import Evl.Props.C10
import Evl.Props.C16

